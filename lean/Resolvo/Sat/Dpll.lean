import Resolvo.Sat.Cnf
/-! `decideSat' f = true ↔ ∃ a, a ⊨ f`, where `decideSat'` runs `solve` with one unit of fuel per literal occurrence (`decideSat` of `Cnf.lean`, fuelled by the number of variables, is not treated). -/
namespace Resolvo.Sat

theorem assign_cons (v : Nat) (b : Bool) (c : Clause) (f : Cnf) :
    assign v b (c :: f) =
      if c.any (fun l => l.1 == v && l.2 == b) then assign v b f
      else c.filter (fun l => l.1 != v) :: assign v b f := by
  unfold assign
  rw [List.filter_cons]
  cases c.any (fun l => l.1 == v && l.2 == b) <;> rfl

theorem assign_nil (v : Nat) (b : Bool) : assign v b [] = [] := rfl

theorem mem_assign {v : Nat} {b : Bool} {f : Cnf} {c' : Clause} :
    c' ∈ assign v b f ↔ ∃ c ∈ f, c.any (fun l => l.1 == v && l.2 == b) = false ∧ c.filter (fun l => l.1 != v) = c' := by
  simp only [assign, List.mem_map, List.mem_filter, Bool.not_eq_true', and_assoc]

theorem assign_sound (a' : Nat → Bool) (v : Nat) (b : Bool) (f : Cnf)
    (h : evalCnf a' (assign v b f) = true) : evalCnf (fun x => if x = v then b else a' x) f = true := by
  refine List.all_eq_true.mpr fun c hc => ?_
  cases hsat : c.any (fun l => l.1 == v && l.2 == b) with
  | true =>
    obtain ⟨l, hl, hlv⟩ := List.any_eq_true.mp hsat
    simp only [Bool.and_eq_true, beq_iff_eq] at hlv
    exact List.any_eq_true.mpr ⟨l, hl, by simp [evalLit, hlv.1, hlv.2]⟩
  | false =>
    obtain ⟨l, hl, hlv⟩ := List.any_eq_true.mp (List.all_eq_true.mp h _ (mem_assign.mpr ⟨c, hc, hsat, rfl⟩))
    obtain ⟨hl1, hl2⟩ := List.mem_filter.mp hl
    have hne : l.1 ≠ v := by simpa using hl2
    exact List.any_eq_true.mpr ⟨l, hl1, by simpa [evalLit, hne] using hlv⟩

theorem assign_complete (a : Nat → Bool) (v : Nat) (f : Cnf)
    (h : evalCnf a f = true) : evalCnf a (assign v (a v) f) = true := by
  refine List.all_eq_true.mpr fun c' hc' => ?_
  obtain ⟨c, hc, hns, rfl⟩ := mem_assign.mp hc'
  obtain ⟨l, hl, hlv⟩ := List.any_eq_true.mp (List.all_eq_true.mp h c hc)
  refine List.any_eq_true.mpr ⟨l, List.mem_filter.mpr ⟨hl, ?_⟩, hlv⟩
  -- a true literal on `v` would have satisfied the clause
  simp only [bne_iff_ne, ne_eq]
  intro he
  rw [List.any_eq_false] at hns
  apply hns l hl
  simp only [evalLit, beq_iff_eq] at hlv
  simp [he, ← hlv]

def litCount : Cnf → Nat
  | [] => 0
  | c :: f => c.length + litCount f

/-- one clause of `f`: it goes, or its literals on `v` go -/
theorem litCount_assign_cons (v : Nat) (b : Bool) (c : Clause) (f : Cnf) :
    litCount (assign v b (c :: f)) ≤ (c.filter (fun l => l.1 != v)).length + litCount (assign v b f) := by
  rw [assign_cons]
  split
  · exact Nat.le_add_left _ _
  · exact Nat.le_refl _

theorem litCount_assign_le (v : Nat) (b : Bool) (f : Cnf) : litCount (assign v b f) ≤ litCount f := by
  induction f with
  | nil => exact Nat.le_refl _
  | cons c f ih => exact Nat.le_trans (litCount_assign_cons v b c f) (Nat.add_le_add (List.length_filter_le _ c) ih)

theorem litCount_assign_lt (v : Nat) (b : Bool) (f : Cnf) (h : ∃ c ∈ f, ∃ l ∈ c, l.1 = v) :
    litCount (assign v b f) < litCount f := by
  induction f with
  | nil => obtain ⟨c, hc, _⟩ := h; cases hc
  | cons c f ih =>
    obtain ⟨c0, hc0, l, hl, hlv⟩ := h
    refine Nat.lt_of_le_of_lt (litCount_assign_cons v b c f) ?_
    rcases List.mem_cons.mp hc0 with rfl | hin
    · exact Nat.add_lt_add_of_lt_of_le (List.length_filter_lt_length_iff_exists.mpr ⟨l, hl, by simp [hlv]⟩)
        (litCount_assign_le v b f)
    · exact Nat.add_lt_add_of_le_of_lt (List.length_filter_le _ c) (ih ⟨c0, hin, l, hl, hlv⟩)

theorem pick_mem (f : Cnf) (l : Lit) (h : pick f = some l) : ∃ c ∈ f, l ∈ c := by
  unfold pick at h
  split at h
  · next c' l' rest hfind =>
    have := List.mem_of_find?_eq_some hfind
    cases h
    exact ⟨_, this, List.mem_cons_self⟩
  · split at h
    · next l' c' f' =>
      cases h
      exact ⟨_, List.mem_cons_self, List.mem_cons_self⟩
    · cases h

theorem pick_some (f : Cnf) (hne : f ≠ []) (hnoempty : f.any (fun c => c.isEmpty) = false) :
    ∃ l, pick f = some l := by
  unfold pick
  split
  · exact ⟨_, rfl⟩
  · cases f with
    | nil => exact absurd rfl hne
    | cons c f =>
      cases c with
      | nil => simp at hnoempty
      | cons l c => exact ⟨l, rfl⟩

theorem solve_sound (fuel : Nat) (f : Cnf) (h : solve fuel f = true) : ∃ a, evalCnf a f = true := by
  induction fuel generalizing f with
  | zero =>
    simp only [solve, List.isEmpty_iff] at h
    subst h; exact ⟨fun _ => false, rfl⟩
  | succ n ih =>
    rw [solve] at h
    split at h
    · next he => rw [List.isEmpty_iff] at he; subst he; exact ⟨fun _ => false, rfl⟩
    · split at h
      · cases h
      · split at h
        · cases h
        · next l _ =>
          rw [Bool.or_eq_true] at h
          rcases h with h | h <;>
          · obtain ⟨a', ha'⟩ := ih _ h
            exact ⟨_, assign_sound a' _ _ f ha'⟩

theorem no_empty_of_sat (a : Nat → Bool) (f : Cnf) (h : evalCnf a f = true) :
    f.any (fun c => c.isEmpty) = false := by
  cases hany : f.any (fun c => c.isEmpty) with
  | false => rfl
  | true =>
    obtain ⟨c, hc, hce⟩ := List.any_eq_true.mp hany
    rw [List.isEmpty_iff] at hce
    subst hce
    have := List.all_eq_true.mp h [] hc
    simp [evalClause] at this

theorem solve_complete (fuel : Nat) (f : Cnf) (a : Nat → Bool) (h : evalCnf a f = true)
    (hf : litCount f ≤ fuel) : solve fuel f = true := by
  induction fuel generalizing f with
  | zero =>
    have hne := no_empty_of_sat a f h
    cases f with
    | nil => rfl
    | cons c f =>
      cases c with
      | nil => simp at hne
      | cons l c => simp [litCount] at hf
  | succ n ih =>
    rw [solve]
    split
    · rfl
    · next hnonempty =>
      have hne := no_empty_of_sat a f h
      rw [hne]
      simp only [Bool.false_eq_true, if_false]
      have hfne : f ≠ [] := by intro e; subst e; simp at hnonempty
      obtain ⟨l, hl⟩ := pick_some f hfne hne
      rw [hl]
      simp only
      obtain ⟨c, hc, hlc⟩ := pick_mem f l hl
      have hlt : ∀ b, litCount (assign l.1 b f) ≤ n := by
        intro b
        have := litCount_assign_lt l.1 b f ⟨c, hc, l, hlc, rfl⟩
        omega
      have hcomp := assign_complete a l.1 f h
      rw [Bool.or_eq_true]
      by_cases hb : a l.1 = l.2
      · exact .inl (hb ▸ ih _ hcomp (hlt _))
      · exact .inr (Bool.eq_not_of_ne hb ▸ ih _ hcomp (hlt _))

/-- Fuel used by `decideSat'`: total number of literal occurrences. -/
def decideSat' (f : Cnf) : Bool := solve (litCount f) f

/-- **The DPLL procedure decides satisfiability.** -/
theorem decideSat'_iff (f : Cnf) : decideSat' f = true ↔ ∃ a, evalCnf a f = true :=
  ⟨solve_sound _ f, fun ⟨a, h⟩ => solve_complete _ f a h (Nat.le_refl _)⟩

end Resolvo.Sat
