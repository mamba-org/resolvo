import Resolvo.Sat.Rup
/-! A clause that passes the RUP check is entailed by the formula (`rup_sound`): unit propagation only derives literals
that every model of the formula and the negated clause makes true, whatever the fuel. -/
namespace Resolvo.Sat

theorem evalLit_neg (a : Nat → Bool) (l : Lit) : evalLit a (neg l) = !evalLit a l := by
  simp only [evalLit, neg]
  cases a l.1 <;> cases l.2 <;> rfl

theorem neg_neg (l : Lit) : neg (neg l) = l := by
  simp [neg]

def Agrees (a : Nat → Bool) (asg : List Lit) : Prop := ∀ l ∈ asg, evalLit a l = true

theorem litVal_true (a : Nat → Bool) (asg : List Lit) (h : Agrees a asg) (l : Lit)
    (hv : litVal asg l = some true) : evalLit a l = true := by
  unfold litVal at hv
  split at hv
  · next hc => exact h l (List.contains_iff_mem.mp hc)
  · split at hv <;> simp at hv

theorem litVal_false (a : Nat → Bool) (asg : List Lit) (h : Agrees a asg) (l : Lit)
    (hv : litVal asg l = some false) : evalLit a l = false := by
  unfold litVal at hv
  split at hv
  · simp at hv
  · split at hv
    · next hc =>
      have := h (neg l) (List.contains_iff_mem.mp hc)
      rw [evalLit_neg] at this
      cases he : evalLit a l <;> simp_all
    · simp at hv

theorem look_sound (a : Nat → Bool) (asg : List Lit) (h : Agrees a asg) (c : Clause)
    (hc : evalClause a c = true) :
    look asg c ≠ .conflict ∧ ∀ l, look asg c = .unit l → evalLit a l = true := by
  obtain ⟨l0, hl0, hv0⟩ := List.any_eq_true.mp hc
  unfold look
  split
  · exact ⟨by simp, by intro l hl; cases hl⟩
  · next hnt =>
    -- `l0` is true under `a`, so it is not assigned false; no literal of `c` is assigned true: it is unassigned
    have hl0none : litVal asg l0 = none := by
      cases h1 : litVal asg l0 with
      | none => rfl
      | some b =>
        cases b with
        | true => exact absurd (List.any_eq_true.mpr ⟨l0, hl0, by simp [h1]⟩) hnt
        | false => exact absurd ((litVal_false a asg h l0 h1).symm.trans hv0) (fun e => nomatch e)
    have hmem : l0 ∈ c.filter (fun l => litVal asg l == none) :=
      List.mem_filter.mpr ⟨hl0, by simp [hl0none]⟩
    split
    · next hnil => rw [hnil] at hmem; cases hmem
    · next l rest hf =>
      constructor
      · split <;> simp
      · intro l' hl'
        split at hl'
        · next hall =>
          cases hl'
          obtain rfl : l0 = l := (List.mem_cons.mp (hf ▸ hmem)).elim id fun e => by
            simpa using List.all_eq_true.mp hall l0 e
          exact hv0
        · cases hl'

theorem sweep_sound (a : Nat → Bool) (f : Cnf) (hf : evalCnf a f = true) (asg : List Lit)
    (h : Agrees a asg) : ∃ asg', sweep f asg = some asg' ∧ Agrees a asg' := by
  unfold sweep
  induction f generalizing asg with
  | nil => exact ⟨asg, rfl, h⟩
  | cons c g ih =>
    rw [evalCnf, List.all_cons, Bool.and_eq_true] at hf
    obtain ⟨hnc, hunit⟩ := look_sound a asg h c hf.1
    simp only [List.foldl_cons]
    cases hl : look asg c with
    | conflict => exact absurd hl hnc
    | unit l => exact ih hf.2 (l :: asg) fun l' hl' => (List.mem_cons.mp hl').elim (fun e => e ▸ hunit l hl) (h l')
    | other => exact ih hf.2 asg h

theorem propagates_sound (a : Nat → Bool) (f : Cnf) (hf : evalCnf a f = true) (fuel : Nat)
    (asg : List Lit) (h : Agrees a asg) : propagatesToConflict fuel f asg = false := by
  induction fuel generalizing asg with
  | zero => rfl
  | succ n ih =>
    unfold propagatesToConflict
    obtain ⟨asg', hs, ha'⟩ := sweep_sound a f hf asg h
    rw [hs]
    simp only []
    split
    · rfl
    · exact ih asg' ha'

/-- **RUP soundness**: a clause accepted by `rup` is entailed by the formula. -/
theorem rup_sound (f : Cnf) (c : Clause) (h : rup f c = true) (a : Nat → Bool)
    (hf : evalCnf a f = true) : evalClause a c = true := by
  cases hc : evalClause a c with
  | true => rfl
  | false =>
    have hag : Agrees a (c.map neg) := fun l hl => by
      obtain ⟨l', hl', rfl⟩ := List.mem_map.mp hl
      rw [evalLit_neg, Bool.not_eq_true', Bool.eq_false_iff]
      exact List.any_eq_false.mp hc l' hl'
    have := propagates_sound a f hf (f.length + 1) (c.map neg) hag
    unfold rup at h
    rw [this] at h; cases h

end Resolvo.Sat
