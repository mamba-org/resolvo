import Resolvo.Enc.AtMostOne
import Resolvo.Basics
/-!
# The at-most-one encoding is sound, complete and stable (C15)

The clauses a tracker should have emitted form a grid: one per (variable index, helper bit) pair, with the polarity
of that bit of the index (`Grid`). The invariant `Inv` says the emitted clauses are exactly the grid (`Cover`, `Exact`),
the helper bits suffice for the indices in use and helpers are fresh. `add` is a run of `growStep` (one more helper:
a column of the grid) followed by `pushVar` (one more variable: a row); each keeps `Inv` and only extends the three
lists (`Ext`). Soundness: two true variables differ in some bit, and the two clauses of that column contradict each other
(`inv_sound`). Completeness: the assignment that gives every helper the bit of the chosen index satisfies the grid (`canon`).
-/
namespace Resolvo.Amo

theorem getElem?_concat_eq_some {α : Type} {l : List α} {a x : α} {i : Nat} :
    (l ++ [a])[i]? = some x ↔ l[i]? = some x ∨ (i = l.length ∧ x = a) := by
  rw [getElem?_concat]
  split
  · next h => simp [h, eq_comm]
  · next h => simp [h]

theorem mem_emitExisting {vars : List Nat} {h bit start : Nat} {c : FClause} :
    c ∈ emitExisting vars h bit start ↔
      ∃ i, vars[i]? = some c.a ∧ c.b = h ∧ c.pos = (start + i).testBit bit := by
  induction vars generalizing start with
  | nil => simp [emitExisting]
  | cons v vs ih =>
    simp only [emitExisting, List.mem_cons, ih]
    constructor
    · rintro (rfl | ⟨i, h1, h2, h3⟩)
      · exact ⟨0, rfl, rfl, rfl⟩
      · exact ⟨i + 1, h1, h2, by rw [h3, Nat.add_right_comm, Nat.add_assoc]⟩
    · rintro ⟨_ | i, h1, h2, h3⟩
      · left; cases c; simp_all
      · right; exact ⟨i, h1, h2, by rw [h3, Nat.add_right_comm, Nat.add_assoc]⟩

theorem mem_emitNew {v idx : Nat} {helpers : List Nat} {bit : Nat} {c : FClause} :
    c ∈ emitNew v idx helpers bit ↔
      c.a = v ∧ ∃ b, helpers[b]? = some c.b ∧ c.pos = idx.testBit (bit + b) := by
  induction helpers generalizing bit with
  | nil => simp [emitNew]
  | cons g gs ih =>
    simp only [emitNew, List.mem_cons, ih]
    constructor
    · rintro (rfl | ⟨h1, b, h2, h3⟩)
      · exact ⟨rfl, 0, rfl, rfl⟩
      · exact ⟨h1, b + 1, h2, by rw [h3, Nat.add_right_comm, Nat.add_assoc]⟩
    · rintro ⟨h1, _ | b, h2, h3⟩
      · left; cases c; simp_all
      · right; exact ⟨h1, b, h2, by rw [h3, Nat.add_right_comm, Nat.add_assoc]⟩

/-- every (variable index, helper bit) pair has its clause -/
abbrev Cover (s : St) : Prop :=
  ∀ (i b : Nat) (x h : Nat), s.t.vars[i]? = some x → s.t.helpers[b]? = some h →
    ⟨x, h, Nat.testBit i b⟩ ∈ s.out

/-- every emitted clause is one of those -/
abbrev Exact (s : St) : Prop :=
  ∀ c ∈ s.out, ∃ i b, s.t.vars[i]? = some c.a ∧ s.t.helpers[b]? = some c.b ∧ c.pos = Nat.testBit i b

/-- enough helper bits for the indices in use (the loop's exit condition, kept between calls) -/
abbrev Enough (s : St) : Prop := s.t.vars.length ≤ 2 ^ s.t.helpers.length

/-- allocator freshness: helpers are below `next` and strictly increasing (hence distinct) -/
abbrev Fresh (s : St) : Prop := s.t.helpers.Pairwise (· < ·) ∧ ∀ h ∈ s.t.helpers, h < s.next

structure Inv (s : St) : Prop where
  cover : Cover s
  exact : Exact s
  enough : Enough s
  nodup : s.t.vars.Nodup
  fresh : Fresh s
  helpersLe : s.t.helpers.length ≤ s.t.vars.length

/-- `c` is the clause of a (variable index, helper bit) pair of `t`. `Exact s` says `s.out ⊆ Grid s.t`
    (by definition), `Cover s` the converse. -/
def Grid (t : Tracker) (c : FClause) : Prop :=
  ∃ i b, t.vars[i]? = some c.a ∧ t.helpers[b]? = some c.b ∧ c.pos = Nat.testBit i b

theorem cover_iff {s : St} : Cover s ↔ ∀ c, Grid s.t c → c ∈ s.out :=
  ⟨fun hc c ⟨i, b, hx, hh, hp⟩ => by have := hc i b _ _ hx hh; rwa [← hp] at this,
   fun hc i b x h hx hh => hc ⟨x, h, _⟩ ⟨i, b, hx, hh, rfl⟩⟩

/-- A new helper adds one column to the grid: the clauses `emitExisting` produces. -/
theorem grid_helpers_concat {t : Tracker} {h : Nat} {c : FClause} :
    Grid { t with helpers := t.helpers ++ [h] } c ↔
      Grid t c ∨ c ∈ emitExisting t.vars h t.helpers.length 0 := by
  simp only [Grid, getElem?_concat_eq_some, mem_emitExisting, Nat.zero_add, and_or_left, or_and_right,
    exists_or, and_assoc, exists_and_left, exists_eq_left]

/-- A new variable adds one row: the clauses `emitNew` produces. -/
theorem grid_vars_concat {t : Tracker} {v : Nat} {c : FClause} :
    Grid { t with vars := t.vars ++ [v] } c ↔
      Grid t c ∨ c ∈ emitNew v t.vars.length t.helpers 0 := by
  simp only [Grid, getElem?_concat_eq_some, mem_emitNew, Nat.zero_add, or_and_right, exists_or, and_assoc,
    exists_and_left, exists_eq_left]

/-- Appending exactly the clauses of the new grid points keeps `out` equal to the grid. -/
theorem cover_exact_append {s s' : St} {l : List FClause} (ho : s'.out = s.out ++ l)
    (hg : ∀ c, Grid s'.t c ↔ Grid s.t c ∨ c ∈ l) : (Cover s → Cover s') ∧ (Exact s → Exact s') := by
  simp only [cover_iff, Exact, ho, List.mem_append]
  exact ⟨fun h c hc => ((hg c).mp hc).imp_left (h c), fun h c hc => (hg c).mpr (hc.imp_left (h c))⟩

theorem inv_init (next : Nat) : Inv { next := next } := by
  refine ⟨?_, ?_, ?_, ?_, ?_, ?_⟩
  · intro i b x h hx; simp at hx
  · intro c hc; simp at hc
  · exact Nat.zero_le _
  · exact List.nodup_nil
  · exact ⟨List.Pairwise.nil, by intro h hh; simp at hh⟩
  · exact Nat.le_refl _

/-- One iteration of the loop: allocate a helper, emit its column. -/
def growStep (s : St) : St :=
  { t := { s.t with helpers := s.t.helpers ++ [s.next] }, next := s.next + 1,
    out := s.out ++ emitExisting s.t.vars s.next s.t.helpers.length 0 }

theorem growLoop_succ (n : Nat) (s : St) : growLoop (n + 1) s =
    if s.t.vars.length > 2 ^ s.t.helpers.length - 1 then growLoop n (growStep s) else s := rfl

theorem growLoop_induct {P : St → Prop}
    (step : ∀ s, s.t.vars.length > 2 ^ s.t.helpers.length - 1 → P s → P (growStep s))
    (fuel : Nat) (s : St) (h : P s) : P (growLoop fuel s) := by
  induction fuel generalizing s with
  | zero => exact h
  | succ n ih =>
    rw [growLoop_succ]; split
    · exact ih _ (step s ‹_› h)
    · exact h

theorem growLoop_vars (fuel : Nat) (s : St) : (growLoop fuel s).t.vars = s.t.vars :=
  growLoop_induct (P := fun s' => s'.t.vars = s.t.vars) (fun _ _ h => h) fuel s rfl

theorem growStep_grid (s : St) : (Cover s → Cover (growStep s)) ∧ (Exact s → Exact (growStep s)) :=
  cover_exact_append rfl fun _ => grid_helpers_concat

/-- An iteration preserves the whole invariant (the guard is needed for `helpersLe` only). -/
theorem growStep_inv {s : St} (hg : s.t.vars.length > 2 ^ s.t.helpers.length - 1) (hi : Inv s) :
    Inv (growStep s) := by
  refine ⟨(growStep_grid s).1 hi.cover, (growStep_grid s).2 hi.exact, ?_, hi.nodup, ⟨?_, ?_⟩, ?_⟩
  · exact Nat.le_trans hi.enough (Nat.pow_le_pow_right (by omega) (by simp [growStep]))
  · simpa [growStep, List.pairwise_append, hi.fresh.1] using hi.fresh.2
  · intro h hh
    rcases List.mem_append.mp hh with hh | hh
    · exact Nat.lt_succ_of_lt (hi.fresh.2 h hh)
    · simp at hh; subst hh; exact Nat.lt_succ_self _
  · have : s.t.helpers.length < 2 ^ s.t.helpers.length := Nat.lt_two_pow_self
    simp only [growStep, List.length_append, List.length_singleton]; omega

/-- The loop's exit condition holds after `vars.length + 1` iterations at the latest. -/
theorem growLoop_enough (fuel : Nat) (s : St) (hf : s.t.vars.length + 1 ≤ fuel + s.t.helpers.length) :
    (growLoop fuel s).t.vars.length ≤ 2 ^ (growLoop fuel s).t.helpers.length - 1 := by
  induction fuel generalizing s with
  | zero =>
    have h1 : s.t.helpers.length < 2 ^ s.t.helpers.length := Nat.lt_two_pow_self
    show s.t.vars.length ≤ 2 ^ s.t.helpers.length - 1
    omega
  | succ n ih =>
    rw [growLoop_succ]; split
    · apply ih
      simp only [growStep, List.length_append, List.length_singleton]
      omega
    · next hng => omega

/-- The last step of `add`: `v` gets the next index, and its row of clauses. -/
def pushVar (s : St) (v : Nat) : St :=
  { s with t := { s.t with vars := s.t.vars ++ [v] },
           out := s.out ++ emitNew v s.t.vars.length s.t.helpers 0 }

theorem pushVar_grid (s : St) (v : Nat) : (Cover s → Cover (pushVar s v)) ∧ (Exact s → Exact (pushVar s v)) :=
  cover_exact_append rfl fun _ => grid_vars_concat

theorem pushVar_inv {s : St} {v : Nat} (hi : Inv s) (hv : v ∉ s.t.vars)
    (hen : s.t.vars.length ≤ 2 ^ s.t.helpers.length - 1) : Inv (pushVar s v) := by
  refine ⟨(pushVar_grid s v).1 hi.cover, (pushVar_grid s v).2 hi.exact, ?_, ?_, hi.fresh, ?_⟩
  · have : 1 ≤ 2 ^ s.t.helpers.length := Nat.one_le_two_pow
    simp only [Enough, pushVar, List.length_append, List.length_singleton]; omega
  · refine List.nodup_append.mpr ⟨hi.nodup, by simp, fun a ha b hb e => hv ?_⟩
    rwa [← List.mem_singleton.mp hb, ← e]
  · simp only [pushVar, List.length_append]; exact Nat.le_succ_of_le hi.helpersLe

/-- In a state with no more helpers than variables, the `is_empty` shortcut of `add` is the general path. -/
theorem add_eq_pushVar {s : St} {v : Nat} (hl : s.t.helpers.length ≤ s.t.vars.length) (hv : v ∉ s.t.vars) :
    add s v = pushVar (growLoop (s.t.vars.length + 1) s) v := by
  unfold add; rw [if_neg hv]; split
  · next hnil =>
    have hh : s.t.helpers = [] := List.eq_nil_of_length_eq_zero (by simpa [hnil] using hl)
    simp [pushVar, growLoop, hnil, hh, emitNew]
  · rfl

theorem add_inv (s : St) (v : Nat) (hi : Inv s) : Inv (add s v) := by
  by_cases hv : v ∈ s.t.vars
  · rwa [add, if_pos hv]
  · rw [add_eq_pushVar hi.helpersLe hv]
    exact pushVar_inv (growLoop_induct (fun _ => growStep_inv) _ s hi) (by rwa [growLoop_vars])
      (growLoop_enough _ s (by omega))

theorem addAll_inv (s : St) (vs : List Nat) (hi : Inv s) : Inv (addAll s vs) :=
  List.foldlRecOn vs add hi fun s hs v _ => add_inv s v hs

theorem add_exact (s : St) (v : Nat) (he : Exact s) : Exact (add s v) := by
  unfold add; split
  · exact he
  split
  · next hnil => intro c hc; obtain ⟨i, _, h1, _⟩ := he c hc; simp [hnil] at h1
  · exact (pushVar_grid _ v).2 (growLoop_induct (fun s _ => (growStep_grid s).2) _ s he)

theorem mem_vars_add {s : St} {v x : Nat} : x ∈ (add s v).t.vars ↔ x ∈ s.t.vars ∨ x = v := by
  unfold add; split
  · next h => exact ⟨.inl, fun h' => h'.elim id (· ▸ h)⟩
  split
  · next hnil => simp [hnil]
  · simp [growLoop_vars]

/-- every clause `AtMostOnceTracker::add` emits has a tracked variable or the added one on its left -/
theorem add_out_a (t : Tracker) (next v : Nat) :
    ∀ c ∈ (add { t := t, next := next, out := [] } v).out, c.a ∈ t.vars ∨ c.a = v := by
  intro c hc
  obtain ⟨i, _, h1, _⟩ := add_exact _ v (fun _ h => by cases h) c hc
  exact mem_vars_add.mp (List.mem_of_getElem? h1)

theorem mem_vars_addAll {s : St} {vs : List Nat} {x : Nat} :
    x ∈ (addAll s vs).t.vars ↔ x ∈ s.t.vars ∨ x ∈ vs := by
  induction vs generalizing s with
  | nil => simp [addAll]
  | cons v vs ih => rw [addAll, List.foldl_cons, ← addAll, ih, mem_vars_add, List.mem_cons, or_assoc]

theorem mem_vars_init {first : Nat} {vs : List Nat} {x : Nat} :
    x ∈ (addAll { next := first } vs).t.vars ↔ x ∈ vs := by
  simp [mem_vars_addAll]

/-- `s'` extends `s`: the three lists only grow at the end, and helpers that are new come from the counter. -/
structure Ext (s s' : St) : Prop where
  vars : s.t.vars <+: s'.t.vars
  helpers : s.t.helpers <+: s'.t.helpers
  out : s.out <+: s'.out
  next : s.next ≤ s'.next
  newHelpers : ∀ h ∈ s'.t.helpers, h ∈ s.t.helpers ∨ s.next ≤ h

theorem Ext.refl (s : St) : Ext s s :=
  ⟨List.prefix_refl _, List.prefix_refl _, List.prefix_refl _, Nat.le_refl _, fun _ => .inl⟩

theorem Ext.trans {s₁ s₂ s₃ : St} (a : Ext s₁ s₂) (b : Ext s₂ s₃) : Ext s₁ s₃ :=
  ⟨a.vars.trans b.vars, a.helpers.trans b.helpers, a.out.trans b.out, Nat.le_trans a.next b.next,
   fun h hh => (b.newHelpers h hh).elim (a.newHelpers h) fun hn => .inr (Nat.le_trans a.next hn)⟩

theorem growStep_ext (s : St) : Ext s (growStep s) :=
  ⟨List.prefix_refl _, List.prefix_append _ _, List.prefix_append _ _, Nat.le_succ _,
   fun _ hh => (List.mem_append.mp hh).imp_right fun hn => Nat.le_of_eq (List.mem_singleton.mp hn).symm⟩

theorem growLoop_ext (fuel : Nat) (s : St) : Ext s (growLoop fuel s) :=
  growLoop_induct (P := Ext s) (fun s' _ h => h.trans (growStep_ext s')) fuel s (Ext.refl s)

theorem pushVar_ext (s : St) (v : Nat) : Ext s (pushVar s v) :=
  ⟨List.prefix_append _ _, List.prefix_refl _, List.prefix_append _ _, Nat.le_refl _, fun _ => .inl⟩

theorem add_ext (s : St) (v : Nat) : Ext s (add s v) := by
  unfold add; split
  · exact Ext.refl s
  split
  · next hnil => exact ⟨by simp [hnil], List.prefix_refl _, List.prefix_refl _, Nat.le_refl _, fun _ => .inl⟩
  · exact (growLoop_ext _ s).trans (pushVar_ext _ v)

theorem addAll_ext (s : St) (vs : List Nat) : Ext s (addAll s vs) :=
  List.foldlRecOn (motive := Ext s) vs add (Ext.refl s) fun s' h v _ => h.trans (add_ext s' v)

/-- Any assignment satisfying the emitted clauses makes at most one tracked variable true:
    the helper values spell out the index of a true variable. -/
theorem inv_sound (s : St) (hi : Inv s) (σ : Nat → Bool) (hsat : ∀ c ∈ s.out, sat σ c = true)
    {x y : Nat} (hx : x ∈ s.t.vars) (hy : y ∈ s.t.vars) (sx : σ x = true) (sy : σ y = true) : x = y := by
  have key : ∀ (i x : Nat), s.t.vars[i]? = some x → σ x = true → ∀ b, s.t.helpers[b]?.any σ = i.testBit b := by
    intro i x hx sx b
    cases hh : s.t.helpers[b]? with
    | some h => simpa [sat, sx] using hsat _ (hi.cover i b x h hx hh)
    | none =>
      have hil := (List.getElem?_eq_some_iff.mp hx).1
      exact .symm <| Nat.testBit_lt_two_pow <| Nat.lt_of_lt_of_le hil <| Nat.le_trans hi.enough <|
        Nat.pow_le_pow_right (by omega) (List.getElem?_eq_none_iff.mp hh)
  obtain ⟨i, hx⟩ := List.getElem?_of_mem hx
  obtain ⟨j, hy⟩ := List.getElem?_of_mem hy
  have : i = j := Nat.eq_of_testBit_eq fun b => (key i x hx sx b).symm.trans (key j y hy sy b)
  exact Option.some.inj (hx.symm.trans (this ▸ hy))

/-- The canonical helper assignment: variable at index `i0` true, every other tracked
    variable false, helper bit `b` set to bit `b` of `i0`. -/
def canon (s : St) (i0 : Nat) (base : Nat → Bool) (v : Nat) : Bool :=
  if v ∈ s.t.vars then decide (s.t.vars[i0]? = some v)
  else if v ∈ s.t.helpers then (List.range s.t.helpers.length).any (fun b => decide (s.t.helpers[b]? = some v) && i0.testBit b)
  else base v

theorem canon_var {s : St} {i0 : Nat} {base : Nat → Bool} (hn : s.t.vars.Nodup) {i x : Nat}
    (hx : s.t.vars[i]? = some x) : canon s i0 base x = decide (i = i0) := by
  rw [canon, if_pos (List.mem_of_getElem? hx), decide_eq_decide]
  exact ⟨nodup_getElem?_inj hn hx, fun e => e ▸ hx⟩

theorem canon_helper {s : St} {i0 : Nat} {base : Nat → Bool} (hp : s.t.helpers.Pairwise (· < ·))
    {b h : Nat} (hv : h ∉ s.t.vars) (hb : s.t.helpers[b]? = some h) :
    canon s i0 base h = i0.testBit b := by
  rw [canon, if_neg hv, if_pos (List.mem_of_getElem? hb), Bool.eq_iff_iff, List.any_eq_true]
  simp only [Bool.and_eq_true, decide_eq_true_eq, List.mem_range]
  constructor
  · rintro ⟨b', _, hb', ht⟩
    rwa [nodup_getElem?_inj (hp.imp Nat.ne_of_lt) hb hb']
  · exact fun ht => ⟨b, (List.getElem?_eq_some_iff.mp hb).1, hb, ht⟩

/-- For every tracked variable `x0` there is an assignment of the helpers (leaving all
    untracked variables as in `base`) that satisfies all emitted clauses and makes exactly
    `x0` true. -/
theorem inv_complete_some (s : St) (hi : Inv s) (hdisj : ∀ h ∈ s.t.helpers, h ∉ s.t.vars)
    {i0 x0 : Nat} (h0 : s.t.vars[i0]? = some x0) (base : Nat → Bool) :
    (∀ c ∈ s.out, sat (canon s i0 base) c = true) ∧ canon s i0 base x0 = true ∧
    (∀ y ∈ s.t.vars, y ≠ x0 → canon s i0 base y = false) ∧
    (∀ v, v ∉ s.t.vars → v ∉ s.t.helpers → canon s i0 base v = base v) := by
  refine ⟨fun c hc => ?_, by simp [canon_var hi.nodup h0], fun y hy hne => ?_,
    fun v h1 h2 => by simp [canon, h1, h2]⟩
  · obtain ⟨i, b, h1, h2, h3⟩ := hi.exact c hc
    rw [sat, canon_var hi.nodup h1, canon_helper hi.fresh.1 (hdisj _ (List.mem_of_getElem? h2)) h2, h3]
    by_cases e : i = i0 <;> simp [e]
  · obtain ⟨j, hj⟩ := List.getElem?_of_mem hy
    rw [canon_var hi.nodup hj, decide_eq_false_iff_not]
    rintro rfl; exact hne (Option.some.inj (hj.symm.trans h0))

/-- … and one that makes none of them true. -/
theorem inv_complete_none (s : St) (hi : Inv s)
    (base : Nat → Bool) :
    ∃ σ, (∀ c ∈ s.out, sat σ c = true) ∧ (∀ x ∈ s.t.vars, σ x = false) ∧
      (∀ v, v ∉ s.t.vars → v ∉ s.t.helpers → σ v = base v) := by
  refine ⟨fun v => if v ∈ s.t.vars then false else base v, fun c hc => ?_, fun x hx => by simp [hx],
    fun v h1 _ => by simp [h1]⟩
  obtain ⟨i, _, h1, _⟩ := hi.exact c hc
  simp [sat, List.mem_of_getElem? h1]

end Resolvo.Amo
