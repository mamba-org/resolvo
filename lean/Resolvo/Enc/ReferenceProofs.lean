import Resolvo.Enc.Reference
import Resolvo.Basics
namespace Resolvo
open Resolvo.Sat

theorem evalClause_append (a : Nat → Bool) (c d : Clause) :
    evalClause a (c ++ d) = (evalClause a c || evalClause a d) := by
  simp [evalClause, List.any_append]

theorem evalCnf_append (a : Nat → Bool) (f g : Cnf) :
    evalCnf a (f ++ g) = (evalCnf a f && evalCnf a g) := by
  simp [evalCnf, List.all_append]

theorem evalClause_pos (a : Nat → Bool) (cs : List Nat) :
    evalClause a (posClause cs) = true ↔ ∃ c ∈ cs, a c = true := by
  simp [evalClause, posClause, List.any_map, evalLit, List.any_eq_true]

theorem evalClause_nil (a : Nat → Bool) : evalClause a [] = false := rfl

theorem evalClause_negUnit (a : Nat → Bool) (s : Nat) : evalClause a [(s, false)] = !a s := by
  simp [evalClause, evalLit]

/-- the clauses for a parent's dependencies hold iff the guard is true (the parent is not selected) or the
    dependencies are met -/
theorem depClauses_iff (U : Universe) (a : Nat → Bool) (guard : List Lit) (reqs : List Req) (cons : List Nat) :
    evalCnf a (depClauses U guard reqs cons) = true ↔ evalClause a guard = true ∨
      ((∀ r ∈ reqs, ∃ c ∈ U.reqCands r, a c = true) ∧ (∀ vs ∈ cons, ∀ t ∈ U.nonMatching vs, a t = false)) := by
  simp only [depClauses, evalCnf, List.all_append, List.all_map, List.all_flatMap, Function.comp_def,
    evalClause_append, Bool.and_eq_true, List.all_eq_true, Bool.or_eq_true, evalClause_pos, evalClause_negUnit,
    Bool.not_eq_true']
  cases evalClause a guard <;> simp

theorem solvClauses_iff (U : Universe) (a : Nat → Bool) (s : Nat) :
    evalCnf a (solvClauses U s) = true ↔
      (a s = true → (∃ reqs cons, U.deps s = .known reqs cons ∧
          (∀ r ∈ reqs, ∃ c ∈ U.reqCands r, a c = true) ∧ (∀ vs ∈ cons, ∀ t ∈ U.nonMatching vs, a t = false)) ∧
        U.excluded s = false ∧ U.lockedOut s = false) := by
  unfold solvClauses
  rw [evalCnf_append, Bool.and_eq_true]
  cases has : a s with
  | false =>
    have hg : evalClause a [(s, false)] = true := by rw [evalClause_negUnit, has]; rfl
    simp only [Bool.false_eq_true, false_imp_iff, iff_true]
    constructor
    · cases U.deps s with
      | unknown r => simp [evalCnf, hg]
      | known reqs cons => exact (depClauses_iff U a _ reqs cons).mpr (Or.inl hg)
    · split <;> simp [evalCnf, hg]
  | true =>
    have hg : evalClause a [(s, false)] = false := by rw [evalClause_negUnit, has]; rfl
    simp only [true_imp_iff]
    apply and_congr
    · cases hd : U.deps s with
      | unknown r => simp [evalCnf, hg]
      | known reqs cons =>
        rw [depClauses_iff, hg]
        simp only [Bool.false_eq_true, false_or]
        constructor
        · intro h; exact ⟨reqs, cons, rfl, h⟩
        · rintro ⟨reqs', cons', he, h⟩; cases he; exact h
    · cases he : U.excluded s <;> cases hl : U.lockedOut s <;> simp [evalCnf, hg]

theorem pairClauses_iff (U : Universe) (a : Nat → Bool) :
    evalCnf a (pairClauses U) = true ↔
      ∀ s ∈ U.allSolvs, ∀ t ∈ U.allSolvs, a s = true → a t = true → U.nameOf s = U.nameOf t → s = t := by
  unfold pairClauses
  simp only [evalCnf, List.all_flatMap, List.all_map, List.all_eq_true, Function.comp, List.mem_filter,
    Bool.and_eq_true, bne_iff_ne, ne_eq, beq_iff_eq]
  constructor
  · intro h s hs t ht has hat hn
    apply Classical.byContradiction
    intro hne
    have := h s hs t ⟨ht, hne, hn⟩
    simp [evalClause, evalLit, has, hat] at this
  · intro h s hs t ht
    cases has : a s with
    | false => simp [evalClause, evalLit, has]
    | true =>
      cases hat : a t with
      | false => simp [evalClause, evalLit, hat]
      | true => exact absurd (h s hs t ht.1 has hat ht.2.2) ht.2.1

theorem candsKnownB_iff (U : Universe) : candsKnownB U = true → CandsKnown U := by
  intro h n p hp c hc
  unfold candsKnownB at h
  have hmem : (n, p) ∈ U.pkgs := mem_of_lookup _ _ _ hp
  have := List.all_eq_true.mp (List.all_eq_true.mp h (n, p) hmem) c hc
  exact List.contains_iff_mem.mp this

theorem candsOf_sub (U : Universe) (vs c : Nat) (h : c ∈ U.candsOf vs) :
    ∃ p, U.pkg? (U.vsName vs) = some p ∧ c ∈ p.cands := by
  unfold Universe.candsOf at h
  rw [Universe.mem_reord] at h
  unfold Universe.pkgCands at h
  have hm := (List.mem_filter.mp h).1
  cases hp : U.pkg? (U.vsName vs) with
  | none => rw [hp] at hm; cases hm
  | some p => rw [hp] at hm; exact ⟨p, rfl, hm⟩

theorem reqCands_subset (U : Universe) (hw : CandsKnown U) (r : Req) (c : Nat) (hc : c ∈ U.reqCands r) :
    c ∈ U.allSolvs := by
  obtain ⟨vs, _, hcv⟩ := List.mem_flatMap.mp hc
  obtain ⟨p, hp, hcp⟩ := candsOf_sub U vs c hcv
  exact hw _ p hp c hcp

theorem evalCnf_flatMap {α : Type} (a : Nat → Bool) (l : List α) (f : α → Cnf) :
    evalCnf a (l.flatMap f) = true ↔ ∀ x ∈ l, evalCnf a (f x) = true := by
  simp only [evalCnf, List.all_flatMap, List.all_eq_true]

theorem encodeAll_sel (U : Universe) (P : Problem) (hw : CandsKnown U) (a : Nat → Bool)
    (ha : evalCnf a (encodeAll U P) = true) : Valid U P.hard (U.allSolvs.filter a) [] := by
  unfold encodeAll at ha
  rw [evalCnf_append, evalCnf_append, Bool.and_eq_true, Bool.and_eq_true, evalCnf_flatMap, pairClauses_iff] at ha
  obtain ⟨⟨hroot, hsolv⟩, hpair⟩ := ha
  simp only [depClauses_iff, evalClause_nil, Bool.false_eq_true, false_or] at hroot
  have hdm : ∀ {reqs cons}, (∀ r ∈ reqs, ∃ c ∈ U.reqCands r, a c = true) ∧
      (∀ vs ∈ cons, ∀ t ∈ U.nonMatching vs, a t = false) → DepsMet U (U.allSolvs.filter a) reqs cons :=
    fun h => ⟨fun r hr => let ⟨c, hc, hac⟩ := h.1 r hr; ⟨c, hc, List.mem_filter.mpr ⟨reqCands_subset U hw r c hc, hac⟩⟩,
      fun vs hvs t ht hm => Bool.false_ne_true ((h.2 vs hvs t ht).symm.trans (List.mem_filter.mp hm).2)⟩
  refine ⟨hdm hroot, fun s hs => ?_, fun s hs _ => ?_, fun s hs t ht hn => ?_⟩
  · obtain ⟨hsm, has⟩ := List.mem_filter.mp hs
    obtain ⟨⟨reqs, cons, hd, h⟩, _⟩ := (solvClauses_iff U a s).mp (hsolv s hsm) has
    exact ⟨reqs, cons, hd, hdm h⟩
  · obtain ⟨hsm, has⟩ := List.mem_filter.mp hs
    exact ((solvClauses_iff U a s).mp (hsolv s hsm) has).2
  · obtain ⟨hsm, has⟩ := List.mem_filter.mp hs
    obtain ⟨htm, hat⟩ := List.mem_filter.mp ht
    exact hpair s hsm t htm has hat hn

theorem encodeAll_of_valid (U : Universe) (P : Problem) (sel : List Nat) (hv : Valid U P.hard sel []) :
    evalCnf (fun s => decide (s ∈ sel)) (encodeAll U P) = true := by
  obtain ⟨hroot, hdeps, hex, hone⟩ := hv
  have hdm : ∀ {reqs cons}, DepsMet U sel reqs cons → (∀ r ∈ reqs, ∃ c ∈ U.reqCands r, decide (c ∈ sel) = true) ∧
      (∀ vs ∈ cons, ∀ t ∈ U.nonMatching vs, decide (t ∈ sel) = false) :=
    fun h => ⟨fun r hr => let ⟨c, hc, hcs⟩ := h.1 r hr; ⟨c, hc, decide_eq_true hcs⟩,
      fun vs hvs t ht => decide_eq_false (h.2 vs hvs t ht)⟩
  unfold encodeAll
  rw [evalCnf_append, evalCnf_append, Bool.and_eq_true, Bool.and_eq_true, evalCnf_flatMap, pairClauses_iff]
  refine ⟨⟨?_, fun s _ => (solvClauses_iff U _ s).mpr fun has => ?_⟩,
    fun s _ t _ has hat hn => hone s (of_decide_eq_true has) t (of_decide_eq_true hat) hn⟩
  · simp only [depClauses_iff, evalClause_nil, Bool.false_eq_true, false_or]
    exact hdm hroot
  · have hs : s ∈ sel := of_decide_eq_true has
    obtain ⟨reqs, cons, hd, h⟩ := hdeps s hs
    exact ⟨⟨reqs, cons, hd, hdm h⟩, hex s hs (by simp)⟩

/-- **The reference encoding is satisfiable exactly when the hard problem is solvable.** -/
theorem encodeAll_iff (U : Universe) (P : Problem) (hw : CandsKnown U) :
    (∃ a, evalCnf a (encodeAll U P) = true) ↔ Solvable U P :=
  ⟨fun ⟨a, ha⟩ => ⟨_, encodeAll_sel U P hw a ha⟩, fun ⟨sel, hv⟩ => ⟨_, encodeAll_of_valid U P sel hv⟩⟩

/-- **`decideSolvable` decides `Solvable`** (for universes whose listed candidates have entries). -/
theorem decideSolvable_iff (U : Universe) (P : Problem) (hw : CandsKnown U) :
    decideSolvable U P = true ↔ Solvable U P := by
  unfold decideSolvable
  rw [decideSat'_iff]
  exact encodeAll_iff U P hw

end Resolvo
