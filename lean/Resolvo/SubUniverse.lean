import Resolvo.Spec
/-!
# Two providers that agree on a closed part of the universe are interchangeable (C16)

`SubAgree U U' S V P`: `S` (solvables) and `V` (version sets) form a part of the universe that is closed under
"candidates of a version set" and "version sets of the requirements / constrains of a solvable", contains what the
problem mentions, and on which the two universes `U` (the live provider) and `U'` (what a snapshot denotes) give the
same answers. Then, for the problem `P`:

* a selection inside `S` is valid for `U'` iff it is valid for `U` (`valid_agree`): solutions found through the
  snapshot are valid against the live data and vice versa;
* the problem is solvable for `U` iff it is solvable for `U'` (`solvable_agree`): same verdict.

`subAgreeB` decides the relation; the C16 check evaluates it on every generated snapshot.
-/
namespace Resolvo

structure SubAgree (U U' : Universe) (S V : List Nat) (P : Problem) : Prop where
  solv : ∀ s ∈ S, U'.deps s = U.deps s ∧ U'.nameOf s = U.nameOf s ∧ U'.excluded s = U.excluded s ∧
    U'.lockedOut s = U.lockedOut s
  vsets : ∀ v ∈ V, (∀ x, x ∈ U'.candsOf v ↔ x ∈ U.candsOf v) ∧ (∀ x, x ∈ U'.nonMatching v ↔ x ∈ U.nonMatching v) ∧
    ∀ x ∈ U.candsOf v, x ∈ S
  closed : ∀ s ∈ S, ∀ reqs cons, U.deps s = .known reqs cons →
    (∀ r ∈ reqs, U'.reqVersionSets r = U.reqVersionSets r ∧ ∀ v ∈ U.reqVersionSets r, v ∈ V) ∧ ∀ v ∈ cons, v ∈ V
  rootReqs : ∀ r ∈ P.reqs, U'.reqVersionSets r = U.reqVersionSets r ∧ ∀ v ∈ U.reqVersionSets r, v ∈ V
  rootCons : ∀ v ∈ P.constraints, v ∈ V

def sameSetB (a b : List Nat) : Bool := a.all (fun x => b.contains x) && b.all (fun x => a.contains x)

theorem sameSetB_iff (a b : List Nat) : sameSetB a b = true ↔ ∀ x, x ∈ a ↔ x ∈ b := by
  unfold sameSetB
  simp only [Bool.and_eq_true, List.all_eq_true, List.contains_iff_mem]
  constructor
  · rintro ⟨h1, h2⟩ x; exact ⟨h1 x, h2 x⟩
  · intro h; exact ⟨fun x hx => (h x).mp hx, fun x hx => (h x).mpr hx⟩

def reqOkB (U U' : Universe) (V : List Nat) (r : Req) : Bool :=
  U'.reqVersionSets r == U.reqVersionSets r && (U.reqVersionSets r).all (fun v => V.contains v)

def subAgreeB (U U' : Universe) (S V : List Nat) (P : Problem) : Bool :=
  S.all (fun s =>
    U'.deps s == U.deps s && U'.nameOf s == U.nameOf s && U'.excluded s == U.excluded s && U'.lockedOut s == U.lockedOut s &&
    (match U.deps s with
     | .known reqs cons => reqs.all (reqOkB U U' V) && cons.all (fun v => V.contains v)
     | .unknown _ => true)) &&
  V.all (fun v => sameSetB (U'.candsOf v) (U.candsOf v) && sameSetB (U'.nonMatching v) (U.nonMatching v) &&
    (U.candsOf v).all (fun x => S.contains x)) &&
  P.reqs.all (reqOkB U U' V) && P.constraints.all (fun v => V.contains v)

theorem reqOkB_spec (U U' : Universe) (V : List Nat) (r : Req) (h : reqOkB U U' V r = true) :
    U'.reqVersionSets r = U.reqVersionSets r ∧ ∀ v ∈ U.reqVersionSets r, v ∈ V := by
  unfold reqOkB at h
  simp only [Bool.and_eq_true, beq_iff_eq, List.all_eq_true, List.contains_iff_mem] at h
  exact h

theorem subAgreeB_sound (U U' : Universe) (S V : List Nat) (P : Problem) (h : subAgreeB U U' S V P = true) :
    SubAgree U U' S V P := by
  unfold subAgreeB at h
  simp only [Bool.and_eq_true, List.all_eq_true] at h
  obtain ⟨⟨⟨hS, hV⟩, hR⟩, hC⟩ := h
  refine ⟨?_, ?_, ?_, ?_, ?_⟩
  · intro s hs
    have := hS s hs
    simp only [beq_iff_eq] at this
    exact ⟨this.1.1.1.1, this.1.1.1.2, this.1.1.2, this.1.2⟩
  · intro v hv
    have := hV v hv
    simp only [List.contains_iff_mem] at this
    exact ⟨(sameSetB_iff _ _).mp this.1.1, (sameSetB_iff _ _).mp this.1.2, this.2⟩
  · intro s hs reqs cons hd
    have := hS s hs
    have h2 := this.2
    rw [hd] at h2
    simp only [Bool.and_eq_true, List.all_eq_true, List.contains_iff_mem] at h2
    exact ⟨fun r hr => reqOkB_spec U U' V r (h2.1 r hr), h2.2⟩
  · intro r hr; exact reqOkB_spec U U' V r (hR r hr)
  · intro v hv; exact List.contains_iff_mem.mp (hC v hv)

/-! ### the relation is symmetric, so each fact is proved in one direction -/

theorem SubAgree.symm {U U' : Universe} {S V : List Nat} {P : Problem} (h : SubAgree U U' S V P) : SubAgree U' U S V P := by
  have hreq : ∀ r, (U'.reqVersionSets r = U.reqVersionSets r ∧ ∀ v ∈ U.reqVersionSets r, v ∈ V) →
      U.reqVersionSets r = U'.reqVersionSets r ∧ ∀ v ∈ U'.reqVersionSets r, v ∈ V :=
    fun r ⟨e, hv⟩ => ⟨e.symm, e ▸ hv⟩
  refine ⟨fun s hs => ?_, fun v hv => ?_, fun s hs reqs cons hd => ?_, fun r hr => hreq r (h.rootReqs r hr), h.rootCons⟩
  · obtain ⟨a, b, c, d⟩ := h.solv s hs
    exact ⟨a.symm, b.symm, c.symm, d.symm⟩
  · obtain ⟨a, b, c⟩ := h.vsets v hv
    exact ⟨fun x => (a x).symm, fun x => (b x).symm, fun x hx => c x ((a x).mp hx)⟩
  · obtain ⟨c1, c2⟩ := h.closed s hs reqs cons ((h.solv s hs).1 ▸ hd)
    exact ⟨fun r hr => hreq r (c1 r hr), c2⟩

theorem mem_reqCands (U : Universe) (r : Req) (c : Nat) : c ∈ U.reqCands r ↔ ∃ v ∈ U.reqVersionSets r, c ∈ U.candsOf v :=
  List.mem_flatMap

/-- What is met in the snapshot's universe is met in the live one, by the part of the selection inside `S`: a requirement's
    candidates lie in `S`, and dropping solvables cannot violate a constrains. -/
theorem depsMet_transfer {U U' : Universe} {S V : List Nat} {P : Problem} (h : SubAgree U U' S V P) {sel : List Nat}
    {reqs : List Req} {cons : List Nat}
    (hr : ∀ r ∈ reqs, U'.reqVersionSets r = U.reqVersionSets r ∧ ∀ v ∈ U.reqVersionSets r, v ∈ V)
    (hc : ∀ v ∈ cons, v ∈ V) (hm : DepsMet U' sel reqs cons) : DepsMet U (sel.filter S.contains) reqs cons := by
  refine ⟨fun r hrm => ?_, fun vs hvs t ht hts => ?_⟩
  · obtain ⟨c, hc1, hc2⟩ := hm.1 r hrm
    obtain ⟨v, hv, hcv⟩ := (mem_reqCands U' r c).mp hc1
    rw [(hr r hrm).1] at hv
    obtain ⟨same, _, inS⟩ := h.vsets v ((hr r hrm).2 v hv)
    have hcU := (same c).mp hcv
    exact ⟨c, (mem_reqCands U r c).mpr ⟨v, hv, hcU⟩, List.mem_filter.mpr ⟨hc2, List.contains_iff_mem.mpr (inS c hcU)⟩⟩
  · exact hm.2 vs hvs t (((h.vsets vs (hc vs hvs)).2.1 t).mpr ht) (List.mem_filter.mp hts).1

/-- **The one transfer theorem**: a valid selection of the snapshot's universe, cut down to the closed part, is valid for
    the live universe. `valid_agree` and `solvable_agree` are this and its mirror image (`SubAgree.symm`). -/
theorem valid_transfer {U U' : Universe} {S V : List Nat} {P : Problem} (h : SubAgree U U' S V P) {sel exempt : List Nat}
    (hv : Valid U' P sel exempt) : Valid U P (sel.filter S.contains) exempt := by
  obtain ⟨h1, h2, h3, h4⟩ := hv
  have hout : ∀ s ∈ sel.filter S.contains, s ∈ sel ∧ s ∈ S :=
    fun s hs => ⟨(List.mem_filter.mp hs).1, List.contains_iff_mem.mp (List.mem_filter.mp hs).2⟩
  refine ⟨depsMet_transfer h h.rootReqs h.rootCons h1, fun s hs => ?_, fun s hs hne => ?_, fun s hs t ht hn => ?_⟩
  · obtain ⟨hs1, hs2⟩ := hout s hs
    obtain ⟨reqs, cons, hd, hm⟩ := h2 s hs1
    have hd' : U.deps s = .known reqs cons := (h.solv s hs2).1 ▸ hd
    obtain ⟨c1, c2⟩ := h.closed s hs2 reqs cons hd'
    exact ⟨reqs, cons, hd', depsMet_transfer h c1 c2 hm⟩
  · obtain ⟨hs1, hs2⟩ := hout s hs
    obtain ⟨_, _, he, hl⟩ := h.solv s hs2
    exact he ▸ hl ▸ h3 s hs1 hne
  · obtain ⟨hs1, hs2⟩ := hout s hs
    obtain ⟨ht1, ht2⟩ := hout t ht
    exact h4 s hs1 t ht1 ((h.solv s hs2).2.1.trans (hn.trans (h.solv t ht2).2.1.symm))

/-- **Solutions found through the snapshot are valid against the live data, and vice versa.** -/
theorem valid_agree (U U' : Universe) (S V : List Nat) (P : Problem) (h : SubAgree U U' S V P) (sel : List Nat)
    (hsub : ∀ s ∈ sel, s ∈ S) : Valid U' P sel [] ↔ Valid U P sel [] := by
  have hf : sel.filter S.contains = sel := List.filter_eq_self.mpr fun s hs => List.contains_iff_mem.mpr (hsub s hs)
  exact ⟨fun hv => hf ▸ valid_transfer h hv, fun hv => hf ▸ valid_transfer h.symm hv⟩

theorem subAgree_hard {U U' : Universe} {S V : List Nat} {P : Problem} (h : SubAgree U U' S V P) :
    SubAgree U U' S V P.hard := ⟨h.solv, h.vsets, h.closed, h.rootReqs, h.rootCons⟩

/-- **Same verdict**: the problem has a solution for the live provider iff it has one for the snapshot. -/
theorem solvable_agree (U U' : Universe) (S V : List Nat) (P : Problem) (h : SubAgree U U' S V P) :
    Solvable U' P ↔ Solvable U P :=
  ⟨fun ⟨_, hv⟩ => ⟨_, valid_transfer (subAgree_hard h) hv⟩, fun ⟨_, hv⟩ => ⟨_, valid_transfer (subAgree_hard h).symm hv⟩⟩

end Resolvo
