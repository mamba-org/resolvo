import Resolvo.Render
import Resolvo.Basics
/-!
# The message renderer terminates on every conflict graph, and its output is bounded by the size of the graph

`runLoop` models the `while let Some(..) = stack.pop()` loop of `DisplayUnsat::fmt_graph`. Potential function:
every node whose solvable has not been reported yet pays `candBudget + 1`, a candidate on the stack weighs 1, a
requirement with `k` edges weighs `k + 2`. Popping a requirement pushes at most `k` candidates; popping a reported
candidate pushes nothing; popping an unreported candidate marks (at least) it as reported and pushes requirement
groups whose total weight is at most `3·|edges|`. So the potential strictly decreases (`stepOp_decreases`), the loop
ends within `renderFuel` iterations on every graph — cyclic ones included (`runLoop_terminates`) — and writes at most
`renderFuel · (|edges| + 1)` lines.
-/
namespace Resolvo.Render
open Resolvo Resolvo.Graph

def stackWeight (stack : List (Op × Ind)) : Nat := (stack.map (fun x => opWeight x.1)).sum

def unrep (g : RG) (reported : List Node) : Nat :=
  (List.range g.nodes.size).countP (fun n => !reported.contains (g.node n))

def pot (g : RG) (reported : List Node) (stack : List (Op × Ind)) : Nat :=
  unrep g reported * (candBudget g + 1) + stackWeight stack

/-- every candidate on the stack is a solvable node (what `dedupChildren` pushes) -/
def CandSolv (g : RG) (stack : List (Op × Ind)) : Prop :=
  ∀ x ∈ stack, ∀ n, x.1 = Op.cand n → ∃ s, g.node n = .solv s

/-- a merged group contains the solvable it is looked up for (true of `simplify`) -/
def MergedOK (merged : List (Nat × List Nat)) : Prop := ∀ s ids, merged.lookup s = some ids → s ∈ ids

theorem stackWeight_append (a b : List (Op × Ind)) : stackWeight (a ++ b) = stackWeight a + stackWeight b := by
  simp [stackWeight, List.sum_append]

theorem stackWeight_reverse (a : List (Op × Ind)) : stackWeight a.reverse = stackWeight a :=
  (a.reverse_perm.map _).sum_nat

theorem stackWeight_cons (x : Op × Ind) (a : List (Op × Ind)) : stackWeight (x :: a) = opWeight x.1 + stackWeight a := by
  simp [stackWeight]

theorem CandSolv.reverse {g : RG} {a : List (Op × Ind)} (ha : CandSolv g a) : CandSolv g a.reverse :=
  fun x hx => ha x (List.mem_reverse.mp hx)

/-- `setFirstLast` changes the indenter of the first entry only -/
theorem setFirstLast_ops (l : List (Op × Ind)) : (setFirstLast l).map (·.1) = l.map (·.1) := by
  cases l <;> rfl

theorem setFirstLast_weight (l : List (Op × Ind)) : stackWeight (setFirstLast l) = stackWeight l := by
  cases l <;> rfl

theorem CandSolv.setFirstLast {g : RG} {l : List (Op × Ind)} (h : CandSolv g l) : CandSolv g (setFirstLast l) := by
  cases l with
  | nil => exact h
  | cons x rest => exact List.forall_mem_cons.mpr (List.forall_mem_cons.mp h)

theorem candSolv_reqs (g : RG) (ind : Ind) (groups : List (Req × List Nat)) :
    CandSolv g (groups.map (fun grp => (Op.req grp.1 grp.2, ind))) := by
  intro x hx n hn
  obtain ⟨grp, _, rfl⟩ := List.mem_map.mp hx
  cases hn

theorem solvOfNode?_eq_some {x : Node} {s : Nat} (h : solvOfNode? x = some s) : x = .solv s := by
  cases x <;> simp_all [solvOfNode?]

theorem dedup_go_spec (c : Ctx) (ind : Ind) (children seen : List Nat) (acc : List (Op × Ind)) (hacc : CandSolv c.g acc) :
    stackWeight (dedupChildren.go c ind children seen acc) ≤ stackWeight acc + children.length ∧
    CandSolv c.g (dedupChildren.go c ind children seen acc) := by
  induction children generalizing seen acc with
  | nil => exact ⟨by simp [dedupChildren.go, stackWeight_reverse], hacc.reverse⟩
  | cons n rest ih =>
    have skip := ih seen acc hacc
    simp only [dedupChildren.go, List.length_cons]
    split
    · exact ⟨by omega, skip.2⟩
    · next s hs =>
      split
      · exact ⟨by omega, skip.2⟩
      · have hacc' : CandSolv c.g ((Op.cand n, ind.push) :: acc) :=
          List.forall_mem_cons.mpr ⟨fun m hm => by cases hm; exact ⟨s, solvOfNode?_eq_some hs⟩, hacc⟩
        refine ⟨Nat.le_trans (ih _ _ hacc').1 ?_, (ih _ _ hacc').2⟩
        rw [stackWeight_cons]
        show 1 + _ + _ ≤ _
        omega

/-- What one iteration writes and pushes: entries of total weight at most `w`, every candidate among them a solvable
    node, at most `l` lines. -/
structure StepBound (g : RG) (w l : Nat) (b : List String × List (Op × Ind)) : Prop where
  weight : stackWeight b.2 ≤ w
  solv : CandSolv g b.2
  lines : b.1.length ≤ l

theorem StepBound.ite {g : RG} {w l : Nat} {p : Prop} [Decidable p] {x y : List String × List (Op × Ind)}
    (hx : StepBound g w l x) (hy : StepBound g w l y) : StepBound g w l (if p then x else y) := by
  split <;> assumption

theorem StepBound.nil {g : RG} {w l : Nat} {lines : List String} (h : lines.length ≤ l) : StepBound g w l (lines, []) :=
  ⟨Nat.zero_le _, fun _ hx => (nomatch hx), h⟩

theorem StepBound.mono {g : RG} {w w' l : Nat} {b : List String × List (Op × Ind)} (h : StepBound g w l b) (hw : w ≤ w') :
    StepBound g w' l b :=
  ⟨Nat.le_trans h.weight hw, h.solv, h.lines⟩

theorem dedupChildren_bound (c : Ctx) (children : List Nat) (ind : Ind) (line : String) :
    StepBound c.g children.length 1 ([line], (dedupChildren c children ind).reverse) := by
  have h := dedup_go_spec c ind children [] [] (fun x hx => nomatch hx)
  refine ⟨?_, h.2.setFirstLast.reverse, Nat.le_refl _⟩
  rw [stackWeight_reverse, dedupChildren, setFirstLast_weight]
  simpa [stackWeight] using h.1

theorem chunkReq_go_weight (g : RG) (edges : List Nat) (cur : Option (Req × List Nat)) (acc : List (Req × List Nat)) :
    ((chunkReq.go g edges cur acc).map (fun grp => grp.2.length + 2)).sum ≤
      3 * edges.length + (match cur with | some c => c.2.length + 2 | none => 0) + (acc.map (fun grp => grp.2.length + 2)).sum := by
  induction edges generalizing cur acc with
  | nil => cases cur <;> simp [chunkReq.go, List.sum_reverse] <;> omega
  | cons e rest ih =>
    simp only [chunkReq.go, List.length_cons]
    split
    · next r _ =>
      -- a requires edge joins the current group, or closes it and opens a new one
      split
      · next r' es =>
        split
        · have := ih (some (r', e :: es)) acc
          simp only [List.length_cons] at this ⊢; omega
        · have := ih (some (r, [e])) ((r', es.reverse) :: acc)
          simp only [List.length_cons, List.length_nil, List.map_cons, List.sum_cons, List.length_reverse] at this ⊢; omega
      · have := ih (some (r, [e])) acc
        simp only [List.length_cons, List.length_nil] at this; omega
    · have := ih cur acc; omega

theorem chunkReq_weight (g : RG) (edges : List Nat) :
    ((chunkReq g edges).map (fun grp => grp.2.length + 2)).sum ≤ 3 * edges.length := by
  simpa [chunkReq] using chunkReq_go_weight g edges none []

theorem sortGroups_perm (c : Ctx) (groups : List (Req × List Nat)) : (sortGroups c groups).Perm groups :=
  List.perm_append_comm.trans (List.filter_append_perm _ groups)

theorem reqOps_weight (ind : Ind) (groups : List (Req × List Nat)) :
    stackWeight (groups.map (fun grp => (Op.req grp.1 grp.2, ind))) = (groups.map (fun grp => grp.2.length + 2)).sum := by
  simp [stackWeight, List.map_map, Function.comp_def, opWeight]

theorem out_length_le (g : RG) (n : Nat) : (g.out n).length ≤ g.edges.size := by
  unfold RG.out
  rw [List.length_reverse]
  exact Nat.le_trans (List.length_filter_le _ _) (by simp)

/-- the requirement groups of a node, as pushed by `candBody` and `fmtGraph` -/
theorem reqStack_bound (c : Ctx) (ind : Ind) (edges : List Nat) {lines : List String} {l : Nat} (hl : lines.length ≤ l) :
    StepBound c.g (3 * edges.length) l
      (lines, (setFirstLast ((sortGroups c (chunkReq c.g edges)).map (fun grp => (Op.req grp.1 grp.2, ind)))).reverse) := by
  refine ⟨?_, (candSolv_reqs c.g ind _).setFirstLast.reverse, hl⟩
  rw [stackWeight_reverse, setFirstLast_weight, reqOps_weight, ((sortGroups_perm c _).map _).sum_nat]
  exact chunkReq_weight c.g edges

theorem not_contains_iff (l : List Node) (x : Node) : (!l.contains x) = true ↔ x ∉ l := by simp

theorem not_contains_mono {r r' : List Node} (h : ∀ x ∈ r, x ∈ r') (x : Node) (hx : (!r'.contains x) = true) :
    (!r.contains x) = true :=
  (not_contains_iff r x).mpr fun hm => (not_contains_iff r' x).mp hx (h x hm)

theorem unrep_mono (g : RG) (r r' : List Node) (h : ∀ x ∈ r, x ∈ r') : unrep g r' ≤ unrep g r :=
  List.countP_mono_left fun n _ => not_contains_mono h (g.node n)

theorem unrep_lt (g : RG) (r r' : List Node) (h : ∀ x ∈ r, x ∈ r') (n : Nat) (hn : n < g.nodes.size)
    (h1 : g.node n ∉ r) (h2 : g.node n ∈ r') : unrep g r' < unrep g r :=
  countP_lt_of_imp (fun x _ => not_contains_mono h (g.node x)) (List.mem_range.mpr hn)
    ((not_contains_iff r _).mpr h1) (by simpa using h2)

theorem unrep_le (g : RG) (r : List Node) : unrep g r ≤ g.nodes.size :=
  Nat.le_trans List.countP_le_length (by simp)

theorem node_solv_lt (g : RG) (n s : Nat) (h : g.node n = .solv s) : n < g.nodes.size := by
  apply Nat.lt_of_not_ge
  intro hge
  unfold RG.node at h
  rw [Array.getD_eq_getD_getElem?, Array.getElem?_eq_none hge] at h
  cases h

theorem reqBody_bound (c : Ctx) (r : Req) (edges : List Nat) (ind : Ind) :
    StepBound c.g edges.length 1 (reqBody c r edges ind) := by
  unfold reqBody
  refine .ite (.nil (Nat.le_refl _)) (.ite ((dedupChildren_bound c _ ind _).mono ?_) ((dedupChildren_bound c _ ind _).mono ?_))
  · rw [List.length_map]; exact List.length_filter_le _ _
  · rw [List.length_map]; exact Nat.le_refl _

theorem dedupConsecutive_length (l : List Nat) : (dedupConsecutive l).length ≤ l.length := by
  have : ∀ (acc : List Nat), (l.foldl (fun acc v => if acc.getLast? == some v then acc else acc ++ [v]) acc).length ≤ acc.length + l.length := by
    induction l with
    | nil => exact fun acc => Nat.le_refl _
    | cons x rest ih =>
      intro acc
      rw [List.foldl_cons, List.length_cons]
      refine Nat.le_trans (ih _) ?_
      split
      · omega
      · rw [List.length_append, List.length_singleton]; omega
  exact Nat.le_trans (this []) (Nat.le_of_eq (Nat.zero_add _))

theorem candBody_bound (c : Ctx) (n : Nat) (ind : Ind) (version : String) :
    StepBound c.g (candBudget c.g) (c.g.edges.size + 1) (candBody c n ind version) := by
  have hout := out_length_le c.g n
  have hbudget : 3 * (c.g.out n).length ≤ candBudget c.g := Nat.le_trans (Nat.mul_le_mul_left 3 hout) (Nat.le_add_right _ 2)
  unfold candBody
  simp only []
  split
  · exact .nil (Nat.le_add_left _ _)
  · refine .ite (.nil (Nat.le_add_left _ _)) (.ite (.nil (Nat.le_add_left _ _)) (.ite (.nil ?_) ?_))
    · simp only [List.length_cons, List.length_map, List.length_zipIdx]
      exact Nat.succ_le_succ (Nat.le_trans (dedupConsecutive_length _) (Nat.le_trans (List.length_filterMap_le _ _) hout))
    · exact (reqStack_bound c ind.push (c.g.out n) (Nat.le_add_left 1 _)).mono hbudget

theorem reportNode_spec (c : Ctx) (hm : MergedOK c.merged) (s : Nat) (reported : List Node) :
    (∀ x ∈ reported, x ∈ (reportNode c s reported).2) ∧ Node.solv s ∈ (reportNode c s reported).2 := by
  unfold reportNode
  cases hl : c.merged.lookup s with
  | none => exact ⟨fun x hx => List.mem_append_left _ hx, List.mem_append_right _ List.mem_cons_self⟩
  | some ids =>
    exact ⟨fun x hx => List.mem_append_left _ hx, List.mem_append_right _ (List.mem_map_of_mem (hm s ids hl))⟩

/-- **the potential strictly decreases** with every iteration of the loop -/
theorem stepOp_decreases (c : Ctx) (hm : MergedOK c.merged) (op : Op) (ind : Ind) (reported : List Node)
    (hop : ∀ n, op = Op.cand n → ∃ s, c.g.node n = .solv s) :
    unrep c.g (stepOp c op ind reported).2.2 * (candBudget c.g + 1) + stackWeight (stepOp c op ind reported).2.1 <
      unrep c.g reported * (candBudget c.g + 1) + opWeight op ∧
    (∀ x ∈ (stepOp c op ind reported).2.1, ∀ n, x.1 = Op.cand n → ∃ s, c.g.node n = .solv s) ∧
    (stepOp c op ind reported).1.length ≤ c.g.edges.size + 1 := by
  cases op with
  | req r edges =>
    -- same reported set, at most `|edges|` candidates for a requirement of weight `|edges| + 2`
    obtain ⟨hw, hcs, hl⟩ := reqBody_bound c r edges ind
    exact ⟨by show unrep c.g reported * _ + stackWeight (reqBody c r edges ind).2 < _ + (edges.length + 2); omega, hcs,
      Nat.le_trans hl (Nat.le_add_left _ _)⟩
  | cand n =>
    obtain ⟨s, hs⟩ := hop n rfl
    unfold stepOp
    simp only []
    split
    · exact ⟨by simp [stackWeight, opWeight], (fun x hx => by cases hx), by simp⟩
    · next hnr =>
      -- one more node is reported: that pays for whatever the candidate pushes
      rw [hs]
      simp only []
      obtain ⟨hw, hcs, hl⟩ := candBody_bound c n ind (reportNode c s reported).1
      obtain ⟨hsub, hin⟩ := reportNode_spec c hm s reported
      have hlt := unrep_lt c.g reported _ hsub n (node_solv_lt c.g n s hs)
        (fun hin => hnr (List.contains_iff_mem.mpr hin)) (hs ▸ hin)
      have := Nat.mul_le_mul_right (candBudget c.g + 1) hlt
      rw [Nat.succ_mul] at this
      exact ⟨by simp only [opWeight]; omega, hcs, hl⟩

theorem runLoop_terminates (c : Ctx) (hm : MergedOK c.merged) (fuel : Nat) (stack : List (Op × Ind)) (reported : List Node)
    (acc : List String) (hcs : CandSolv c.g stack) (hf : pot c.g reported stack ≤ fuel) :
    ∃ out, runLoop c fuel stack reported acc = some out ∧ out.length ≤ acc.length + fuel * (c.g.edges.size + 1) := by
  induction fuel generalizing stack reported acc with
  | zero =>
    cases stack with
    | nil => exact ⟨acc.reverse, rfl, by simp⟩
    | cons x rest =>
      -- a non-empty stack has positive weight
      have : 0 < opWeight x.1 := by cases x.1 <;> simp [opWeight]
      rw [pot, stackWeight_cons] at hf
      omega
  | succ f ih =>
    cases stack with
    | nil => exact ⟨acc.reverse, rfl, by simp⟩
    | cons x rest =>
      obtain ⟨op, ind⟩ := x
      obtain ⟨hx, hrest⟩ := List.forall_mem_cons.mp hcs
      obtain ⟨hdec, hpush, hlines⟩ := stepOp_decreases c hm op ind reported hx
      rw [pot, stackWeight_cons] at hf
      obtain ⟨out, ho, hl⟩ := ih ((stepOp c op ind reported).2.1 ++ rest) (stepOp c op ind reported).2.2
        ((stepOp c op ind reported).1.reverse ++ acc)
        (List.forall_mem_append.mpr ⟨hpush, hrest⟩) (by rw [pot, stackWeight_append]; simp only at hf; omega)
      refine ⟨out, ho, ?_⟩
      simp only [List.length_append, List.length_reverse] at hl
      rw [Nat.add_mul, Nat.one_mul]
      omega

theorem runLoop_renderFuel (c : Ctx) (hm : MergedOK c.merged) (stack : List (Op × Ind)) (hcs : CandSolv c.g stack) :
    ∃ out, runLoop c (renderFuel c.g stack) stack [] [] = some out ∧
      out.length ≤ renderFuel c.g stack * (c.g.edges.size + 1) := by
  have hf : pot c.g [] stack ≤ renderFuel c.g stack := by
    have := Nat.mul_le_mul_right (candBudget c.g + 1) (Nat.le_trans (unrep_le c.g []) (Nat.le_add_right _ 1))
    simp only [pot, renderFuel, potential, Nat.sub_zero, ← stackWeight.eq_1]
    omega
  simpa using runLoop_terminates c hm _ stack [] [] hcs hf

theorem simplify_mergedOK (U : Universe) (g : RG) : MergedOK (simplify U g) := by
  intro s ids h
  have hmem := mem_of_lookup _ _ _ h
  unfold simplify at hmem
  simp only [List.mem_flatMap, List.mem_map] at hmem
  obtain ⟨m, _, id, hid, heq⟩ := hmem
  cases heq
  exact hid

/-- **`fmt_graph` terminates on every conflict graph** — whatever its shape, cycles included — and writes at most
    `renderFuel · (|edges| + 1)` lines. -/
theorem fmtGraph_terminates (c : Ctx) (hm : MergedOK c.merged) (topEdges : List Nat) (topIndent : Bool) :
    ∃ out, fmtGraph c topEdges topIndent = some out ∧
      out.length ≤ renderFuel c.g ((setFirstLast ((sortGroups c (chunkReq c.g topEdges)).map
        (fun grp => (Op.req grp.1 grp.2, ({ top := topIndent } : Ind).push)))).reverse) * (c.g.edges.size + 1) :=
  runLoop_renderFuel c hm _ (candSolv_reqs c.g _ _).setFirstLast.reverse

/-- **The model of `DisplayUnsat` never runs out of fuel**: the user-friendly message is produced for every graph. -/
theorem render_total (U : Universe) (g : RG) : (render U g).isSome = true := by
  have h := fmtGraph_terminates { U := U, g := g, merged := simplify U g, inst := installableSet g } (simplify_mergedOK U g)
  obtain ⟨o1, ho1, _⟩ := h ((g.out 0).filter (fun e => (missingSet g).contains (g.dst e))) false
  obtain ⟨o2, ho2, _⟩ := h ((g.out 0).filter (fun e => !(missingSet g).contains (g.dst e))) true
  unfold render
  simp only [ho1, ho2]
  generalize ((g.out 0).filter fun e => (missingSet g).contains (g.dst e)).isEmpty = a
  generalize ((g.out 0).filter fun e => !(missingSet g).contains (g.dst e)).isEmpty = b
  cases a <;> cases b <;> rfl

end Resolvo.Render
