import Resolvo.Data.Mapping
/-! Lemmas for the `Mapping` model, all in terms of the abstraction function `slot m : Nat → Option V`
(`get_eq_slot`): one equation per operation, the slot it changes, and the lemma (`inv_of_update`) by which
`insert` and `unset` keep `Inv` (`get_mut` is an `insert` of a present key: `getMut_eq_insert`); closed forms for
`iter` and `serialize`.
Property theorems are in `Props/C19.lean`. -/
namespace Resolvo.Mapping
variable {V : Type}

/-- what the equations of the operations need: every chunk has the chunk size (the full invariant is `Inv`) -/
structure Shape (m : M V) : Prop where
  pos : 0 < m.chunkSize
  len_chunks : ∀ ch ∈ m.chunks, ch.length = m.chunkSize

def countBelow (m : M V) (B : Nat) : Nat := (List.range B).countP (fun i => (slot m i).isSome)

/-- `max` bounds the stored ids and its chunk exists (the iterator stops there, `serialize` reads up to it); `len` counts
    the stored pairs -/
structure Inv (m : M V) : Prop extends Shape m where
  nonempty : 0 < m.chunks.length
  max_lt : m.max / m.chunkSize < m.chunks.length
  keys_le : ∀ id v, slot m id = some v → id ≤ m.max
  len_eq : m.len = countBelow m (m.max + 1)

theorem slotOf_setSlot (c : Nat) (chunks : List (List (Option V))) (hpos : 0 < c)
    (hl : ∀ ch ∈ chunks, ch.length = c) (id : Nat) (x : Option V) (j : Nat) :
    slotOf c (setSlot chunks c id x) j =
      if j = id then (if id / c < chunks.length then x else none) else slotOf c chunks j := by
  unfold slotOf setSlot
  rw [List.getElem?_modify]
  cases hget : chunks[j / c]? with
  | none =>
    have hge := List.getElem?_eq_none_iff.mp hget
    by_cases hj : j = id
    · rw [if_pos hj, if_neg (hj ▸ Nat.not_lt.mpr hge)]; rfl
    · rw [if_neg hj]; rfl
  | some ch =>
    have hlen : ch.length = c := hl ch (List.mem_of_getElem? hget)
    have hlt := (List.getElem?_eq_some_iff.mp hget).1
    simp only [Option.map_eq_map, Option.map_some]
    by_cases hc : id / c = j / c
    · rw [if_pos hc, List.getElem?_set, hlen, if_pos (Nat.mod_lt _ hpos)]
      by_cases ho : id % c = j % c
      · rw [if_pos ho, if_pos (Nat.ext_div_mod hc.symm ho.symm), if_pos (hc ▸ hlt)]; rfl
      · rw [if_neg ho, if_neg (by rintro rfl; exact ho rfl)]
    · rw [if_neg hc, if_neg (by rintro rfl; exact hc rfl)]

theorem len_setSlot (c : Nat) (chunks : List (List (Option V)))
    (hl : ∀ ch ∈ chunks, ch.length = c) (id : Nat) (x : Option V) :
    ∀ ch ∈ setSlot chunks c id x, ch.length = c := by
  intro ch hch
  obtain ⟨i, hi, rfl⟩ := List.getElem_of_mem hch
  simp only [setSlot, List.getElem_modify]
  split
  · rw [List.length_set]; exact hl _ (List.getElem_mem _)
  · exact hl _ (List.getElem_mem _)

theorem length_setSlot (chunks : List (List (Option V))) (c id : Nat) (x : Option V) :
    (setSlot chunks c id x).length = chunks.length := List.length_modify _ _ _

theorem slot_none_of_out (m : M V) (id : Nat) (h : m.chunks.length ≤ id / m.chunkSize) : slot m id = none := by
  unfold slot slotOf
  rw [List.getElem?_eq_none h]

theorem get_eq_slot (m : M V) (id : Nat) : get m id = slot m id := by
  unfold get
  split
  · next h => exact (slot_none_of_out m id h).symm
  · rfl

theorem slotOf_growTo (m : M V) (n j : Nat) : slotOf m.chunkSize (growTo m n) j = slot m j := by
  unfold slot slotOf growTo
  by_cases h : j / m.chunkSize < m.chunks.length
  · rw [List.getElem?_append_left h]
  · rw [List.getElem?_append_right (Nat.le_of_not_lt h), List.getElem?_eq_none (Nat.le_of_not_lt h),
      List.getElem?_replicate]
    by_cases hk : j / m.chunkSize - m.chunks.length < n - m.chunks.length
    · rw [if_pos hk]
      show ((List.replicate m.chunkSize none)[j % m.chunkSize]?).join = none
      rw [List.getElem?_replicate]
      split <;> rfl
    · rw [if_neg hk]

theorem growTo_of_le (m : M V) (n : Nat) (h : n ≤ m.chunks.length) : growTo m n = m.chunks := by
  simp [growTo, Nat.sub_eq_zero_of_le h]

theorem length_growTo (m : M V) (n : Nat) : (growTo m n).length = max m.chunks.length n := by
  simp only [growTo, List.length_append, List.length_replicate]; omega

theorem len_growTo (m : M V) (hs : Shape m) (n : Nat) : ∀ ch ∈ growTo m n, ch.length = m.chunkSize :=
  List.forall_mem_append.mpr
    ⟨hs.len_chunks, fun _ h => List.eq_of_mem_replicate h ▸ List.length_replicate⟩

theorem countBelow_succ (m : M V) (B : Nat) :
    countBelow m (B + 1) = countBelow m B + (slot m B).isSome.toNat := by
  unfold countBelow
  rw [List.range_succ, List.countP_append, List.countP_singleton]
  cases (slot m B).isSome <;> rfl

theorem countBelow_update {m m' : M V} {id : Nat} {x : Option V}
    (h : ∀ j, slot m' j = if j = id then x else slot m j) {B : Nat} (hB : id < B) :
    countBelow m' B + (slot m id).isSome.toNat = countBelow m B + x.isSome.toNat := by
  induction B with
  | zero => omega
  | succ n ih =>
    rw [countBelow_succ, countBelow_succ, h n]
    by_cases hn : n = id
    · subst hn
      have : countBelow m' n = countBelow m n :=
        List.countP_congr fun j hj => by rw [h j, if_neg (Nat.ne_of_lt (List.mem_range.mp hj))]
      rw [if_pos rfl]
      omega
    · rw [if_neg hn]
      have := ih (by omega)
      omega

theorem slot_none_of_gt {m : M V} (hk : ∀ id v, slot m id = some v → id ≤ m.max) {i : Nat}
    (h : m.max < i) : slot m i = none :=
  Option.eq_none_iff_forall_ne_some.mpr fun v hs => Nat.not_le.mpr h (hk i v hs)

theorem countBelow_of_keys (m : M V) (hk : ∀ id v, slot m id = some v → id ≤ m.max) {B : Nat}
    (hB : m.max + 1 ≤ B) : countBelow m B = countBelow m (m.max + 1) := by
  induction B with
  | zero => omega
  | succ n ih =>
    by_cases hn : m.max = n
    · rw [hn]
    · rw [countBelow_succ, ih (by omega), slot_none_of_gt hk (by omega)]
      rfl

theorem inv_of_update {m m' : M V} (hi : Inv m) (hs : Shape m') {id : Nat} {x : Option V}
    (hslot : ∀ j, slot m' j = if j = id then x else slot m j)
    (hmax : m.max ≤ m'.max) (hid : x.isSome → id ≤ m'.max)
    (hlt : m'.max / m'.chunkSize < m'.chunks.length)
    (hlen : m'.len = m.len + x.isSome.toNat - (slot m id).isSome.toNat) : Inv m' := by
  have hk : ∀ j w, slot m' j = some w → j ≤ m'.max := by
    intro j w hj
    rw [hslot] at hj
    split at hj
    · next h => rw [h]; exact hid (by rw [hj]; rfl)
    · exact Nat.le_trans (hi.keys_le j w hj) hmax
  -- count below a bound above `id` and both maxima, then cut each side back to its own `max + 1` (no key lies beyond)
  have hc := countBelow_update hslot (show id < m'.max + id + 1 by omega)
  rw [countBelow_of_keys m hi.keys_le (by omega), ← hi.len_eq, countBelow_of_keys m' hk (by omega)] at hc
  exact { toShape := hs, nonempty := Nat.zero_lt_of_lt hlt, max_lt := hlt, keys_le := hk, len_eq := by omega }

/-- `with_capacity` is `resize_with` on an empty `Vec`. -/
theorem slot_withCapacity (c n id : Nat) : slot (withCapacity c n : M V) id = none :=
  slotOf_growTo { chunkSize := c, chunks := [], len := 0, max := 0 } ((Nat.max 1 n - 1) / c + 1) id

theorem inv_withCapacity (c n : Nat) (hc : 0 < c) : Inv (withCapacity c n : M V) where
  pos := hc
  len_chunks := fun _ h => List.eq_of_mem_replicate h ▸ List.length_replicate
  nonempty := by simp [withCapacity]
  max_lt := by simp [withCapacity]
  keys_le := fun id v h => by rw [slot_withCapacity] at h; cases h
  len_eq := (List.countP_eq_zero.mpr fun a _ => by rw [slot_withCapacity]; simp).symm

theorem insert_eq (m : M V) (id : Nat) (v : V) :
    insert m id v =
      ({ m with chunks := setSlot (growTo m (id / m.chunkSize + 1)) m.chunkSize id (some v),
                len := if (slot m id).isNone then m.len + 1 else m.len,
                max := Nat.max m.max id }, slot m id) := by
  have h : (if id / m.chunkSize ≥ m.chunks.length then growTo m (id / m.chunkSize + 1) else m.chunks)
      = growTo m (id / m.chunkSize + 1) := by
    split
    · rfl
    · exact (growTo_of_le m _ (by omega)).symm
  simp only [insert, h, slot, slotOf_growTo]
  rfl

theorem insert_prev (m : M V) (id : Nat) (v : V) : (insert m id v).2 = slot m id := by
  rw [insert_eq]

theorem slot_insert (m : M V) (hs : Shape m) (id : Nat) (v : V) (j : Nat) :
    slot (insert m id v).1 j = if j = id then some v else slot m j := by
  rw [insert_eq]
  show slotOf m.chunkSize (setSlot (growTo m _) m.chunkSize id (some v)) j = _
  rw [slotOf_setSlot _ _ hs.pos (len_growTo m hs _), slotOf_growTo, length_growTo,
    if_pos (show id / m.chunkSize < max _ _ by omega)]

theorem shape_insert (m : M V) (hs : Shape m) (id : Nat) (v : V) : Shape (insert m id v).1 := by
  rw [insert_eq]
  exact ⟨hs.pos, len_setSlot _ _ (len_growTo m hs _) id _⟩

theorem inv_insert (m : M V) (hi : Inv m) (id : Nat) (v : V) : Inv (insert m id v).1 := by
  have hs := shape_insert m hi.toShape id v
  have hsl := slot_insert m hi.toShape id v
  rw [insert_eq] at hs hsl ⊢
  refine inv_of_update hi hs hsl (Nat.le_max_left _ _) (fun _ => Nat.le_max_right _ _) ?_ ?_
  · show max m.max id / m.chunkSize < (setSlot (growTo m _) _ _ _).length
    rw [length_setSlot, length_growTo]
    have := hi.max_lt
    rcases Nat.le_total m.max id with h | h
    · rw [Nat.max_eq_right h]; omega
    · rw [Nat.max_eq_left h]; omega
  · show (if (slot m id).isNone then m.len + 1 else m.len) = _
    cases slot m id <;> rfl

theorem unset_eq (m : M V) (id : Nat) :
    unset m id =
      ({ m with chunks := setSlot m.chunks m.chunkSize id none,
                len := if (slot m id).isSome then m.len - 1 else m.len }, slot m id) := by
  unfold unset
  split
  · next h => rw [slot_none_of_out m id h, setSlot, List.modify_eq_self h]; rfl
  · rfl

theorem unset_prev (m : M V) (id : Nat) : (unset m id).2 = slot m id := by
  rw [unset_eq]

theorem slot_unset (m : M V) (hs : Shape m) (id : Nat) (j : Nat) :
    slot (unset m id).1 j = if j = id then none else slot m j := by
  rw [unset_eq]
  show slotOf m.chunkSize (setSlot m.chunks m.chunkSize id none) j = _
  rw [slotOf_setSlot _ _ hs.pos hs.len_chunks, ite_self]
  rfl

theorem shape_unset (m : M V) (hs : Shape m) (id : Nat) : Shape (unset m id).1 := by
  rw [unset_eq]
  exact ⟨hs.pos, len_setSlot _ _ hs.len_chunks id _⟩

theorem inv_unset (m : M V) (hi : Inv m) (id : Nat) : Inv (unset m id).1 := by
  have hs := shape_unset m hi.toShape id
  have hsl := slot_unset m hi.toShape id
  rw [unset_eq] at hs hsl ⊢
  refine inv_of_update hi hs hsl (Nat.le_refl _) (fun h => nomatch h) ?_ ?_
  · show m.max / m.chunkSize < (setSlot _ _ _ _).length
    rw [length_setSlot]
    exact hi.max_lt
  · show (if (slot m id).isSome then m.len - 1 else m.len) = _
    cases slot m id <;> rfl

theorem getMut_eq_insert (m : M V) (hi : Inv m) (id : Nat) (v : V) :
    getMut m id v = match slot m id with
      | some old => ((insert m id v).1, some old)
      | none => (m, none) := by
  unfold getMut
  split
  · next h => rw [slot_none_of_out m id h]
  · next hin =>
    cases h : slot m id with
    | none => rfl
    | some old =>
      rw [insert_eq, h, growTo_of_le m _ (by omega),
        show Nat.max m.max id = m.max from Nat.max_eq_left (hi.keys_le id old h)]
      rfl

theorem iterFrom_eq (m : M V) (fuel offset : Nat) (h : offset + fuel = m.max + 1) :
    iterFrom m fuel offset = (List.range' offset fuel).filterMap fun i => (slot m i).map (Prod.mk i) := by
  induction fuel generalizing offset with
  | zero => rfl
  | succ n ih =>
    rw [iterFrom, if_neg (by omega), ih (offset + 1) (by omega), List.range'_succ, List.filterMap_cons]
    cases slot m offset <;> rfl

theorem iter_eq (m : M V) :
    iter m = (List.range (m.max + 1)).filterMap fun i => (slot m i).map (Prod.mk i) := by
  rw [iter, iterFrom_eq m _ 0 (Nat.zero_add _), List.range_eq_range']

theorem mem_iter (m : M V) (hi : Inv m) (k : Nat) (v : V) : (k, v) ∈ iter m ↔ slot m k = some v := by
  rw [iter_eq, List.mem_filterMap]
  constructor
  · rintro ⟨i, _, h⟩
    obtain ⟨w, hw, hp⟩ := Option.map_eq_some_iff.mp h
    cases hp
    exact hw
  · intro h
    exact ⟨k, List.mem_range.mpr (Nat.lt_succ_of_le (hi.keys_le k v h)), by rw [h]; rfl⟩

theorem length_iter (m : M V) : (iter m).length = countBelow m (m.max + 1) := by
  rw [iter_eq, List.length_filterMap_eq_countP]
  exact List.countP_congr fun i _ => by rw [Option.isSome_map]

theorem slotOf_eq_flatten (c : Nat) (chunks : List (List (Option V))) (hc : 0 < c)
    (hl : ∀ ch ∈ chunks, ch.length = c) (i : Nat) : slotOf c chunks i = (chunks.flatten[i]?).join := by
  induction chunks generalizing i with
  | nil => rfl
  | cons ch rest ih =>
    have hch : ch.length = c := hl ch List.mem_cons_self
    rw [List.flatten_cons]
    by_cases hi : i < c
    · rw [List.getElem?_append_left (hch ▸ hi), slotOf, Nat.div_eq_of_lt hi, Nat.mod_eq_of_lt hi]
      rfl
    · obtain ⟨k, rfl⟩ := Nat.exists_eq_add_of_le (Nat.le_of_not_lt hi)
      rw [List.getElem?_append_right (by omega), hch, Nat.add_sub_cancel_left,
        ← ih (fun ch' h => hl ch' (List.mem_cons_of_mem _ h)), slotOf, slotOf,
        Nat.add_div_left _ hc, Nat.add_mod_left, List.getElem?_cons_succ]

theorem serialize_getElem? (m : M V) (hi : Inv m) (i : Nat) : ((serialize m)[i]?).join = slot m i := by
  rw [serialize, List.getElem?_take]
  split
  · exact (slotOf_eq_flatten _ _ hi.pos hi.len_chunks i).symm
  · exact (slot_none_of_gt hi.keys_le (by omega)).symm

theorem length_serialize (m : M V) (hi : Inv m) : (serialize m).length = m.max + 1 := by
  have := (Nat.div_lt_iff_lt_mul hi.pos).mp hi.max_lt
  rw [serialize, List.length_take, List.length_flatten, List.map_congr_left hi.len_chunks,
    List.map_const', List.sum_replicate_nat]
  omega

theorem insertAll_spec (m : M V) (hi : Inv m) (start : Nat) (values : List (Option V)) :
    Inv (insertAll m start values) ∧
    (∀ j < start, slot (insertAll m start values) j = slot m j) ∧
    ∀ k, slot (insertAll m start values) (start + k) = ((values[k]?).join).or (slot m (start + k)) := by
  induction values generalizing m start with
  | nil => exact ⟨hi, fun _ _ => rfl, fun _ => rfl⟩
  | cons x rest ih =>
    obtain ⟨m', hm', hi', hs'⟩ : ∃ m', insertAll m start (x :: rest) = insertAll m' (start + 1) rest ∧
        Inv m' ∧ ∀ j, slot m' j = if j = start then x.or (slot m start) else slot m j := by
      cases x with
      | none =>
        refine ⟨m, rfl, hi, fun j => ?_⟩
        split
        · next h => rw [h]; rfl
        · rfl
      | some v => exact ⟨_, rfl, inv_insert m hi start v, slot_insert m hi.toShape start v⟩
    obtain ⟨h1, h2, h3⟩ := ih m' hi' (start + 1)
    rw [hm']
    refine ⟨h1, fun j hj => ?_, fun k => ?_⟩
    · rw [h2 j (by omega), hs', if_neg (by omega)]
    · cases k with
      | zero =>
        show slot _ start = _
        rw [h2 start (by omega), hs', if_pos rfl]
        rfl
      | succ k => rw [show start + (k + 1) = start + 1 + k by omega, h3, hs', if_neg (by omega)]; rfl

end Resolvo.Mapping
