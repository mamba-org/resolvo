import Resolvo.Data.CowVector
import Resolvo.Basics
/-!
# The refcounted heap model refines the value-semantics spec (C17)

`Inv` is the invariant of the copy-on-write scheme (every live block's reference count equals the
number of handles pointing at it, freed blocks are unreferenced, the static empty block is never
counted, written or freed); `GInv` is the same with *ghost references* held by the temporaries an
operation creates. Every heap update of the model is one of three (`setBlock`, `setHandle`, `alloc`; the
use-after-free flag `touch` would set never fires on a live block: `touch_live`); each keeps `GInv` when the
owners of every block are accounted for (`GInv.update`). Copy, assignment, `init` and `detach` re-point a handle
by move-assigning from a temporary (`moveAssign_post`; `move` swaps two handles: `move_post`); every write goes
through `detach` to an exclusively owned block (`detachWrite_post`).
-/
namespace Resolvo.Cow

theorem block_setBlock (hp : Heap) (b : Nat) (blk : Block) (c : Nat) (hb : b < hp.blocks.length) :
    (hp.setBlock b blk).block c = if c = b then blk else hp.block c :=
  getD_set hp.blocks b c blk default hb

@[simp] theorem blocks_length_setBlock (hp : Heap) (b : Nat) (blk : Block) :
    (hp.setBlock b blk).blocks.length = hp.blocks.length := List.length_set
@[simp] theorem handles_setBlock (hp : Heap) (b : Nat) (blk : Block) : (hp.setBlock b blk).handles = hp.handles := rfl
@[simp] theorem uaf_setBlock (hp : Heap) (b : Nat) (blk : Block) : (hp.setBlock b blk).uaf = hp.uaf := rfl
@[simp] theorem refs_setBlock (hp : Heap) (b : Nat) (blk : Block) (c : Nat) : (hp.setBlock b blk).refs c = hp.refs c := rfl
@[simp] theorem blockOf_setBlock (hp : Heap) (b : Nat) (blk : Block) (h : Nat) : (hp.setBlock b blk).blockOf h = hp.blockOf h := rfl

@[simp] theorem blocks_setHandle (hp : Heap) (h b : Nat) : (hp.setHandle h b).blocks = hp.blocks := rfl
@[simp] theorem uaf_setHandle (hp : Heap) (h b : Nat) : (hp.setHandle h b).uaf = hp.uaf := rfl
@[simp] theorem block_setHandle (hp : Heap) (h b c : Nat) : (hp.setHandle h b).block c = hp.block c := rfl
@[simp] theorem handles_length_setHandle (hp : Heap) (h b : Nat) :
    (hp.setHandle h b).handles.length = hp.handles.length := List.length_set

theorem blockOf_setHandle (hp : Heap) (h b k : Nat) (hh : h < hp.handles.length) :
    (hp.setHandle h b).blockOf k = if k = h then b else hp.blockOf k :=
  getD_set hp.handles h k b 0 hh

theorem blockOf_eq_getElem (hp : Heap) (h : Nat) (hh : h < hp.handles.length) : hp.blockOf h = hp.handles[h] :=
  (List.getElem_eq_getD 0).symm

theorem refs_pos_blockOf (hp : Heap) (h : Nat) (hh : h < hp.handles.length) : 0 < hp.refs (hp.blockOf h) := by
  rw [blockOf_eq_getElem hp h hh]; exact List.count_pos_iff.mpr (List.getElem_mem hh)

theorem refs_setHandle (hp : Heap) (h b c : Nat) (hh : h < hp.handles.length) :
    (hp.setHandle h b).refs c + (if hp.blockOf h = c then 1 else 0) = hp.refs c + (if b = c then 1 else 0) := by
  -- `List.count_set` subtracts in `Nat`; nothing is cut off, since the handle's old block is referenced
  have hpos : 0 < hp.handles.count hp.handles[h] := List.count_pos_iff.mpr (List.getElem_mem hh)
  unfold Heap.refs Heap.setHandle
  rw [blockOf_eq_getElem hp h hh]
  simp only [List.count_set hh, beq_iff_eq]
  split
  · next e => rw [e] at hpos; omega
  · omega

theorem refs_two (hp : Heap) (h k : Nat) (hh : h < hp.handles.length) (hk : k < hp.handles.length) (hne : h ≠ k)
    (e : hp.blockOf h = hp.blockOf k) : 2 ≤ hp.refs (hp.blockOf h) := by
  -- point `h` elsewhere: the block loses one reference and `k` still holds one
  have r := refs_setHandle hp h (hp.blockOf h + 1) (hp.blockOf h) hh
  have p := refs_pos_blockOf (hp.setHandle h (hp.blockOf h + 1)) k (by simpa using hk)
  rw [blockOf_setHandle hp h _ k hh, if_neg (Ne.symm hne), ← e] at p
  rw [if_pos rfl, if_neg (by omega)] at r
  omega

theorem block_alloc (hp : Heap) (d : List Nat) (cap c : Nat) :
    (hp.alloc d cap).1.block c = if c = hp.blocks.length then { refcount := 1, data := d, capacity := cap } else hp.block c := by
  unfold Heap.block Heap.alloc
  simp only [List.getD_eq_getElem?_getD, getElem?_concat]
  split
  · rfl
  · rfl

@[simp] theorem alloc_snd (hp : Heap) (d : List Nat) (cap : Nat) : (hp.alloc d cap).2 = hp.blocks.length := rfl
@[simp] theorem blocks_length_alloc (hp : Heap) (d : List Nat) (cap : Nat) :
    (hp.alloc d cap).1.blocks.length = hp.blocks.length + 1 := List.length_append
@[simp] theorem handles_alloc (hp : Heap) (d : List Nat) (cap : Nat) : (hp.alloc d cap).1.handles = hp.handles := rfl
@[simp] theorem uaf_alloc (hp : Heap) (d : List Nat) (cap : Nat) : (hp.alloc d cap).1.uaf = hp.uaf := rfl
@[simp] theorem refs_alloc (hp : Heap) (d : List Nat) (cap c : Nat) : (hp.alloc d cap).1.refs c = hp.refs c := rfl
@[simp] theorem blockOf_alloc (hp : Heap) (d : List Nat) (cap h : Nat) : (hp.alloc d cap).1.blockOf h = hp.blockOf h := rfl

/-! `share` and `dropBlock` of a live block are a `setBlock` with the block's reference count changed (`share_eq`,
    `dropBlock_eq`), so everything below is said of the three updates only. -/

def shareBlk (blk : Block) : Block := if blk.refcount > 0 then { blk with refcount := blk.refcount + 1 } else blk

def dropBlk (blk : Block) : Block :=
  if blk.refcount > 0 then
    (if blk.refcount - 1 == 0 then { blk with refcount := 0, freed := true } else { blk with refcount := blk.refcount - 1 })
  else blk

theorem touch_live (hp : Heap) (b : Nat) (h : (hp.block b).freed = false) : hp.touch b = hp := by
  unfold Heap.touch; simp [h]

theorem setBlock_self (hp : Heap) (b : Nat) (hb : b < hp.blocks.length) : hp.setBlock b (hp.block b) = hp := by
  unfold Heap.setBlock Heap.block
  rw [← List.getElem_eq_getD (h := hb), List.set_getElem_self]

theorem share_eq (hp : Heap) (b : Nat) (hb : b < hp.blocks.length) (hl : (hp.block b).freed = false) :
    hp.share b = hp.setBlock b (shareBlk (hp.block b)) := by
  unfold Heap.share shareBlk
  simp only [touch_live hp b hl]
  split
  · rfl
  · rw [setBlock_self hp b hb]

theorem dropBlock_eq (hp : Heap) (b : Nat) (hb : b < hp.blocks.length) (hl : (hp.block b).freed = false) :
    hp.dropBlock b = hp.setBlock b (dropBlk (hp.block b)) := by
  unfold Heap.dropBlock dropBlk
  simp only [touch_live hp b hl]
  split
  · split <;> rfl
  · rw [setBlock_self hp b hb]

theorem shareBlk_data (blk : Block) : (shareBlk blk).data = blk.data := by
  unfold shareBlk; split <;> rfl

theorem dropBlk_data (blk : Block) : (dropBlk blk).data = blk.data := by
  unfold dropBlk; split
  · split <;> rfl
  · rfl

/-- `ex b`: the number of temporaries that hold block `b` (a function, since an operation may have several alive; the
    static block 0 is not counted, so `ex 0` is never constrained). A freed block has no owner of either kind (`dead`);
    `out` keeps the count of blocks not yet allocated at 0, so that `alloc` starts a fresh block with its one temporary. -/
structure GInv (hp : Heap) (ex : Nat → Nat) : Prop where
  uaf : hp.uaf = false
  len : 0 < hp.blocks.length
  z_rc : (hp.block 0).refcount = -1
  z_data : (hp.block 0).data = []
  z_live : (hp.block 0).freed = false
  hnd : ∀ h, h < hp.handles.length → hp.blockOf h < hp.blocks.length
  dead : ∀ b, 0 < b → b < hp.blocks.length → (hp.block b).freed = true → hp.refs b = 0 ∧ ex b = 0
  live : ∀ b, 0 < b → b < hp.blocks.length → (hp.block b).freed = false →
    (hp.block b).refcount = ((hp.refs b + ex b : Nat) : Int) ∧ 0 < hp.refs b + ex b
  out : ∀ b, hp.blocks.length ≤ b → ex b = 0
  cap : ∀ b, 0 < b → b < hp.blocks.length → (hp.block b).data.length ≤ (hp.block b).capacity

/-- the invariant between operations: no temporaries -/
def Inv (hp : Heap) : Prop := GInv hp (fun _ => 0)

/-- what `GInv` says of one counted block with `n` owners (handles and temporaries) -/
structure Counted (blk : Block) (n : Nat) : Prop where
  dead : blk.freed = true → n = 0
  live : blk.freed = false → blk.refcount = (n : Int) ∧ 0 < n
  cap : blk.data.length ≤ blk.capacity

theorem GInv.counted {hp : Heap} {ex : Nat → Nat} (g : GInv hp ex) {b : Nat} (hpos : 0 < b) (hb : b < hp.blocks.length) :
    Counted (hp.block b) (hp.refs b + ex b) :=
  ⟨fun hf => by have := g.dead b hpos hb hf; omega, g.live b hpos hb, g.cap b hpos hb⟩

theorem GInv.update {hp hp' : Heap} {ex ex' : Nat → Nat} (g : GInv hp ex)
    (hu : hp'.uaf = hp.uaf) (hl : hp.blocks.length ≤ hp'.blocks.length) (hz : hp'.block 0 = hp.block 0)
    (hn : ∀ k, k < hp'.handles.length → hp'.blockOf k < hp'.blocks.length)
    (ho : ∀ c, hp'.blocks.length ≤ c → ex' c = 0)
    (hc : ∀ c, 0 < c → c < hp'.blocks.length → Counted (hp'.block c) (hp'.refs c + ex' c)) : GInv hp' ex' where
  uaf := hu.trans g.uaf
  len := Nat.lt_of_lt_of_le g.len hl
  z_rc := by rw [hz]; exact g.z_rc
  z_data := by rw [hz]; exact g.z_data
  z_live := by rw [hz]; exact g.z_live
  hnd := hn
  dead := fun c h1 h2 hf => by have := (hc c h1 h2).dead hf; omega
  live := fun c h1 h2 => (hc c h1 h2).live
  out := ho
  cap := fun c h1 h2 => (hc c h1 h2).cap

theorem GInv.handle_live {hp : Heap} {ex : Nat → Nat} (g : GInv hp ex) (h : Nat) (hh : h < hp.handles.length) :
    (hp.block (hp.blockOf h)).freed = false := by
  by_cases hz : hp.blockOf h = 0
  · rw [hz]; exact g.z_live
  · cases hf : (hp.block (hp.blockOf h)).freed with
    | false => rfl
    | true =>
      have := (g.dead _ (by omega) (g.hnd h hh) hf).1
      have := refs_pos_blockOf hp h hh
      omega

theorem GInv.refs_out {hp : Heap} {ex : Nat → Nat} (g : GInv hp ex) (b : Nat) (hb : hp.blocks.length ≤ b) : hp.refs b = 0 := by
  unfold Heap.refs
  rw [List.count_eq_zero]
  intro hm
  obtain ⟨i, hi, e⟩ := List.getElem_of_mem hm
  have := g.hnd i hi
  rw [blockOf_eq_getElem hp i hi, e] at this
  omega

/-! The ghost counts after a step are any function `ex'` that accounts for the step; the static block is not counted, so
`ex' 0` is never constrained. -/

theorem ginv_setBlock {hp : Heap} {ex ex' : Nat → Nat} {b : Nat} {blk : Block} (g : GInv hp ex) (hb : b < hp.blocks.length)
    (hz : b = 0 → blk = hp.block 0) (hex : ∀ c, 0 < c → c ≠ b → ex' c = ex c)
    (hok : 0 < b → Counted blk (hp.refs b + ex' b)) : GInv (hp.setBlock b blk) ex' := by
  refine g.update rfl (by simp) ?_ (fun k hk => by simpa using g.hnd k hk) (fun c hc => ?_) (fun c hc hlt => ?_)
  · rw [block_setBlock _ _ _ _ hb]
    split
    · next e => exact hz e.symm
    · rfl
  · have hc' : hp.blocks.length ≤ c := by simpa using hc
    rw [hex c (by omega) (by omega)]
    exact g.out c hc'
  · rw [block_setBlock _ _ _ _ hb, refs_setBlock]
    split
    · next e => subst e; exact hok hc
    · next e => rw [hex c hc e]; exact g.counted hc (by simpa using hlt)

/-- a fresh block owned by a temporary -/
theorem ginv_alloc {hp : Heap} {ex ex' : Nat → Nat} (d : List Nat) (cp : Nat) (g : GInv hp ex) (hd : d.length ≤ cp)
    (hex : ∀ c, 0 < c → ex' c = ex c + (if hp.blocks.length = c then 1 else 0)) : GInv (hp.alloc d cp).1 ex' := by
  have hlen := g.len
  refine g.update rfl (by simp) ?_ (fun k hk => by have := g.hnd k hk; simp; omega) (fun c hc => ?_) (fun c hc hlt => ?_)
  · rw [block_alloc, if_neg (by omega)]
  · have hc' : hp.blocks.length + 1 ≤ c := by simpa using hc
    rw [hex c (by omega), if_neg (by omega), g.out c (by omega)]
  · rw [block_alloc, refs_alloc, hex c hc]
    split
    · next e =>
      subst e
      rw [g.refs_out _ (Nat.le_refl _), g.out _ (Nat.le_refl _), if_pos rfl]
      exact ⟨fun hf => (by cases hf), fun _ => ⟨rfl, Nat.one_pos⟩, hd⟩
    · next e =>
      rw [if_neg (Ne.symm e), Nat.add_zero]
      exact g.counted hc (by simp at hlt; omega)

/-- a handle is re-pointed: it gives up a reference to its old block and takes one to the new block -/
theorem ginv_setHandle {hp : Heap} {ex ex' : Nat → Nat} {h nb : Nat} (g : GInv hp ex) (hh : h < hp.handles.length)
    (hnb : nb < hp.blocks.length)
    (hex : ∀ c, 0 < c → ex' c + (if nb = c then 1 else 0) = ex c + (if hp.blockOf h = c then 1 else 0)) :
    GInv (hp.setHandle h nb) ex' := by
  refine g.update rfl (Nat.le_refl _) rfl (fun k hk => ?_) (fun c hc => ?_) (fun c hc hlt => ?_)
  · rw [blockOf_setHandle hp h nb k hh]
    split
    · exact hnb
    · exact g.hnd k (by simpa using hk)
  · have hc' : hp.blocks.length ≤ c := hc
    have hold := g.hnd h hh
    have := hex c (by have := g.len; omega)
    rw [if_neg (show ¬ nb = c by omega), if_neg (show ¬ hp.blockOf h = c by omega), g.out c hc'] at this
    exact this
  · have := refs_setHandle hp h nb c hh
    have := hex c hc
    have e : (hp.setHandle h nb).refs c + ex' c = hp.refs c + ex c := by omega
    rw [block_setHandle, e]
    exact g.counted hc hlt

theorem counted_share {blk : Block} {n : Nat} (k : Counted blk n) (hl : blk.freed = false) : Counted (shareBlk blk) (n + 1) := by
  have := k.live hl
  unfold shareBlk
  rw [if_pos (by omega)]
  exact ⟨fun hf => (by rw [hl] at hf; cases hf), fun _ => ⟨(by show blk.refcount + 1 = ((n + 1 : Nat) : Int); omega), Nat.succ_pos _⟩, k.cap⟩

theorem counted_drop {blk : Block} {n : Nat} (k : Counted blk (n + 1)) (hl : blk.freed = false) : Counted (dropBlk blk) n := by
  have := k.live hl
  unfold dropBlk
  rw [if_pos (by omega)]
  split
  · next h1 =>
    have := eq_of_beq h1
    exact ⟨fun _ => (by omega), fun hf => (by cases hf), k.cap⟩
  · next h1 =>
    have : blk.refcount ≠ 1 := fun e => h1 (by rw [e]; rfl)
    exact ⟨fun hf => (by rw [hl] at hf; cases hf), fun _ => ⟨(by show blk.refcount - 1 = (n : Int); omega), (by omega)⟩, k.cap⟩

/-- a temporary takes a reference -/
theorem ginv_share {hp : Heap} {ex ex' : Nat → Nat} {b : Nat} (g : GInv hp ex) (hb : b < hp.blocks.length)
    (hl : (hp.block b).freed = false) (hex : ∀ c, 0 < c → ex' c = ex c + (if b = c then 1 else 0)) :
    GInv (hp.share b) ex' := by
  rw [share_eq hp b hb hl]
  refine ginv_setBlock g hb (fun e => ?_) (fun c hc hne => by rw [hex c hc, if_neg (Ne.symm hne)]; rfl) (fun hpos => ?_)
  · subst e; unfold shareBlk; rw [if_neg (by rw [g.z_rc]; omega)]
  · rw [hex b hpos, if_pos rfl, ← Nat.add_assoc]
    exact counted_share (g.counted hpos hb) hl

/-- a temporary releases its reference -/
theorem ginv_drop {hp : Heap} {ex ex' : Nat → Nat} {b : Nat} (g : GInv hp ex) (hb : b < hp.blocks.length)
    (hl : (hp.block b).freed = false) (hex : ∀ c, 0 < c → ex' c + (if b = c then 1 else 0) = ex c) :
    GInv (hp.dropBlock b) ex' := by
  rw [dropBlock_eq hp b hb hl]
  refine ginv_setBlock g hb (fun e => ?_) (fun c hc hne => ?_) (fun hpos => ?_)
  · subst e; unfold dropBlk; rw [if_neg (by rw [g.z_rc]; omega)]
  · have := hex c hc; rw [if_neg (Ne.symm hne)] at this; exact this
  · have k := g.counted hpos hb
    have := hex b hpos
    rw [if_pos rfl] at this
    rw [← this, ← Nat.add_assoc] at k
    exact counted_drop k hl

theorem contents_setBlock (hp : Heap) (b k : Nat) (blk : Block) (hb : b < hp.blocks.length)
    (hd : hp.blockOf k = b → blk.data = (hp.block b).data) : (hp.setBlock b blk).contents k = hp.contents k := by
  unfold Heap.contents
  rw [blockOf_setBlock, block_setBlock _ _ _ _ hb]
  split
  · next e => rw [hd e, e]
  · rfl

theorem contents_share (hp : Heap) (b k : Nat) (hb : b < hp.blocks.length) (hl : (hp.block b).freed = false) :
    (hp.share b).contents k = hp.contents k := by
  rw [share_eq hp b hb hl, contents_setBlock hp b k _ hb fun _ => shareBlk_data _]

theorem contents_dropBlock (hp : Heap) (b k : Nat) (hb : b < hp.blocks.length) (hl : (hp.block b).freed = false) :
    (hp.dropBlock b).contents k = hp.contents k := by
  rw [dropBlock_eq hp b hb hl, contents_setBlock hp b k _ hb fun _ => dropBlk_data _]

theorem contents_setHandle (hp : Heap) (h nb k : Nat) (hh : h < hp.handles.length) :
    (hp.setHandle h nb).contents k = if k = h then (hp.block nb).data else hp.contents k := by
  unfold Heap.contents
  rw [blockOf_setHandle hp h nb k hh]
  split <;> rfl

theorem contents_alloc (hp : Heap) (d : List Nat) (cp k : Nat) (hk : hp.blockOf k < hp.blocks.length) :
    (hp.alloc d cp).1.contents k = hp.contents k := by
  unfold Heap.contents
  rw [blockOf_alloc, block_alloc, if_neg (by omega)]

/-- an operation is over: no temporary is left, the handles are the same and now hold `f` -/
structure Post (hp hp' : Heap) (f : Nat → List Nat) : Prop where
  inv : Inv hp'
  len : hp'.handles.length = hp.handles.length
  con : ∀ k, k < hp.handles.length → hp'.contents k = f k

/-- one temporary, holding block `b` -/
def tmp (b : Nat) : Nat → Nat := fun c => if b = c then 1 else 0

/-- `*this = std::move(temporary)`: the handle takes the temporary's block `nb`, the temporary leaves with the handle's
    old block and is destroyed. The two ghost accounts say that handle and temporary swap one reference (`tmp` unfolds,
    so each is an instance of commutativity). -/
theorem moveAssign_post {hp : Heap} {h nb : Nat} (g : GInv hp (tmp nb)) (hh : h < hp.handles.length)
    (hnb : nb < hp.blocks.length) :
    Post hp ((hp.setHandle h nb).dropBlock (hp.blockOf h)) (fun k => if k = h then (hp.block nb).data else hp.contents k) := by
  have hold := g.hnd h hh
  have hlive : ((hp.setHandle h nb).block (hp.blockOf h)).freed = false := g.handle_live h hh
  have g2 : GInv (hp.setHandle h nb) (tmp (hp.blockOf h)) := ginv_setHandle g hh hnb (fun _ _ => Nat.add_comm _ _)
  refine ⟨ginv_drop g2 hold hlive (fun _ _ => Nat.zero_add _), ?_, fun k _ => ?_⟩
  · rw [dropBlock_eq (hp.setHandle h nb) _ hold hlive]; simp
  · rw [contents_dropBlock (hp.setHandle h nb) _ _ hold hlive, contents_setHandle _ _ _ _ hh]

theorem Inv.tmp_zero {hp : Heap} (gi : Inv hp) : GInv hp (tmp 0) :=
  gi.update rfl (Nat.le_refl _) rfl gi.hnd (fun c hc => by have := gi.len; exact if_neg (by omega))
    (fun c hc hlt => by rw [show tmp 0 c = 0 from if_neg (by omega)]; exact gi.counted hc hlt)

theorem copy_post (hp : Heap) (h g : Nat) (gi : Inv hp) (hh : h < hp.handles.length) (hg : g < hp.handles.length) :
    Post hp (heapStep hp (.copy h g)) (fun k => if k = h then hp.contents g else hp.contents k) := by
  have hgb := gi.hnd g hg
  have hgl := gi.handle_live g hg
  have g1 : GInv (hp.share (hp.blockOf g)) (tmp (hp.blockOf g)) := ginv_share gi hgb hgl (fun _ _ => (Nat.zero_add _).symm)
  show Post hp (((hp.share (hp.blockOf g)).setHandle h (hp.blockOf g)).dropBlock (hp.blockOf h)) _
  rw [share_eq hp _ hgb hgl] at g1 ⊢
  have p : Post _ (((hp.setBlock _ _).setHandle h _).dropBlock (hp.blockOf h)) _ := moveAssign_post g1 hh (by simpa using hgb)
  refine ⟨p.inv, p.len, fun k hk => ?_⟩
  rw [p.con k hk, block_setBlock _ _ _ _ hgb, if_pos rfl, shareBlk_data,
    contents_setBlock _ _ _ _ hgb (fun _ => shareBlk_data _)]
  rfl

/-! copy assignment releases the old block *before* it takes the new reference; with distinct blocks the
    two reference-count updates commute, so it is the same heap as copy construction and move assignment -/

theorem setBlock_comm (hp : Heap) (a b : Nat) (x y : Block) (h : a ≠ b) :
    (hp.setBlock a x).setBlock b y = (hp.setBlock b y).setBlock a x := by
  unfold Heap.setBlock
  simp only [List.set_comm _ _ h]

theorem assign_eq_copy (hp : Heap) (h a b : Nat) (ha : a < hp.blocks.length) (hb : b < hp.blocks.length)
    (hla : (hp.block a).freed = false) (hlb : (hp.block b).freed = false) (hne : a ≠ b) :
    ((hp.dropBlock a).setHandle h b).share b = ((hp.share b).setHandle h b).dropBlock a := by
  rw [dropBlock_eq hp a ha hla, share_eq hp b hb hlb]
  have hb1 : (((hp.setBlock a (dropBlk (hp.block a))).setHandle h b).block b) = hp.block b := by
    rw [block_setHandle, block_setBlock _ _ _ _ ha, if_neg (Ne.symm hne)]
  have ha1 : (((hp.setBlock b (shareBlk (hp.block b))).setHandle h b).block a) = hp.block a := by
    rw [block_setHandle, block_setBlock _ _ _ _ hb, if_neg hne]
  rw [share_eq _ b (by simpa using hb) (by rw [hb1]; exact hlb), dropBlock_eq _ a (by simpa using ha) (by rw [ha1]; exact hla), hb1, ha1]
  show ((hp.setBlock a _).setBlock b _).setHandle h b = ((hp.setBlock b _).setBlock a _).setHandle h b
  rw [setBlock_comm hp a b _ _ hne]

theorem assign_post (hp : Heap) (h g : Nat) (gi : Inv hp) (hh : h < hp.handles.length) (hg : g < hp.handles.length) :
    Post hp (heapStep hp (.assign h g)) (fun k => if k = h then hp.contents g else hp.contents k) := by
  show Post hp (if hp.blockOf g == hp.blockOf h then hp else ((hp.dropBlock (hp.blockOf h)).setHandle h (hp.blockOf g)).share (hp.blockOf g)) _
  by_cases e : hp.blockOf g = hp.blockOf h
  · rw [if_pos (beq_iff_eq.mpr e)]
    refine ⟨gi, rfl, fun k _ => ?_⟩
    split
    · next ek => subst ek; unfold Heap.contents; rw [e]
    · rfl
  · rw [if_neg (fun x => e (beq_iff_eq.mp x)),
      assign_eq_copy hp h _ _ (gi.hnd h hh) (gi.hnd g hg) (gi.handle_live h hh) (gi.handle_live g hg) (Ne.symm e)]
    exact copy_post hp h g gi hh hg

theorem move_post (hp : Heap) (h g : Nat) (gi : Inv hp) (hh : h < hp.handles.length) (hg : g < hp.handles.length) :
    Post hp (heapStep hp (.move h g))
      (fun k => if k = g then hp.contents h else if k = h then hp.contents g else hp.contents k) := by
  show Post hp ((hp.setHandle h (hp.blockOf g)).setHandle g (hp.blockOf h)) _
  have hg1 : g < (hp.setHandle h (hp.blockOf g)).handles.length := by simpa using hg
  have hbk : ∀ k, ((hp.setHandle h (hp.blockOf g)).setHandle g (hp.blockOf h)).blockOf k
      = if k = g then hp.blockOf h else if k = h then hp.blockOf g else hp.blockOf k := fun k => by
    rw [blockOf_setHandle _ g _ k hg1, blockOf_setHandle hp h _ k hh]
  refine ⟨gi.update rfl (Nat.le_refl _) rfl (fun k hk => ?_) (fun _ _ => rfl) (fun c hc hlt => ?_), by simp, fun k _ => ?_⟩
  · rw [hbk]
    split
    · exact gi.hnd h hh
    · split
      · exact gi.hnd g hg
      · exact gi.hnd k (by simpa using hk)
  · -- a swap keeps every reference count
    have r1 := refs_setHandle hp h (hp.blockOf g) c hh
    have r2 := refs_setHandle (hp.setHandle h (hp.blockOf g)) g (hp.blockOf h) c hg1
    rw [blockOf_setHandle hp h _ g hh, ite_self] at r2
    have e : ((hp.setHandle h (hp.blockOf g)).setHandle g (hp.blockOf h)).refs c = hp.refs c := by omega
    rw [e]
    exact gi.counted hc hlt
  · unfold Heap.contents
    rw [hbk]
    split
    · rfl
    · split <;> rfl

/-- a fresh block with elements `d` is built in a temporary and move-assigned to `h` (`init`, and `detach` of a shared
    or too small block) -/
theorem fresh_post (hp : Heap) (h : Nat) (d : List Nat) (cp : Nat) (gi : Inv hp) (hh : h < hp.handles.length)
    (hd : d.length ≤ cp) :
    let hp' := ((hp.alloc d cp).1.setHandle h hp.blocks.length).dropBlock (hp.blockOf h)
    Post hp hp' (fun k => if k = h then d else hp.contents k) ∧
      hp'.block (hp'.blockOf h) = { refcount := 1, data := d, capacity := cp } := by
  have hold := gi.hnd h hh
  have g1 : GInv (hp.alloc d cp).1 (tmp hp.blocks.length) := ginv_alloc d cp gi hd (fun _ _ => (Nat.zero_add _).symm)
  have p : Post _ (((hp.alloc d cp).1.setHandle h hp.blocks.length).dropBlock (hp.blockOf h)) _ := moveAssign_post g1 hh (by simp)
  have hlive : (((hp.alloc d cp).1.setHandle h hp.blocks.length).block (hp.blockOf h)).freed = false := by
    rw [block_setHandle, block_alloc, if_neg (by omega)]; exact gi.handle_live h hh
  refine ⟨⟨p.inv, p.len, fun k hk => ?_⟩, ?_⟩
  · rw [p.con k hk, block_alloc, if_pos rfl, contents_alloc hp _ _ k (gi.hnd k hk)]
  · have hlt : hp.blockOf h < ((hp.alloc d cp).1.setHandle h hp.blocks.length).blocks.length := by simp; omega
    rw [dropBlock_eq _ _ hlt hlive, blockOf_setBlock, blockOf_setHandle _ _ _ _ (by simpa using hh), if_pos rfl,
      block_setBlock _ _ _ _ hlt, if_neg (by omega), block_setHandle, block_alloc, if_pos rfl]

theorem detach_post (hp : Heap) (h e : Nat) (gi : Inv hp) (hh : h < hp.handles.length) (he : (hp.contents h).length ≤ e) :
    Post hp (hp.detach h e) hp.contents ∧ ((hp.detach h e).block ((hp.detach h e).blockOf h)).refcount = 1 ∧
      e ≤ ((hp.detach h e).block ((hp.detach h e).blockOf h)).capacity := by
  unfold Heap.detach
  simp only [touch_live hp _ (gi.handle_live h hh)]
  split
  · next c =>
    simp only [Bool.and_eq_true, beq_iff_eq, decide_eq_true_eq] at c
    exact ⟨⟨gi, rfl, fun _ _ => rfl⟩, c⟩
  · obtain ⟨p, hb⟩ := fresh_post hp h (hp.contents h) e gi hh he
    refine ⟨⟨p.inv, p.len, fun k hk => ?_⟩, congrArg Block.refcount hb, Nat.le_of_eq (congrArg Block.capacity hb).symm⟩
    refine (p.con k hk).trans ?_
    split
    · next ek => rw [ek]
    · rfl

theorem write_post (hp : Heap) (h : Nat) (d : List Nat) (gi : Inv hp) (hh : h < hp.handles.length)
    (hrc : (hp.block (hp.blockOf h)).refcount = 1) (hd : d.length ≤ (hp.block (hp.blockOf h)).capacity) :
    Post hp ((hp.touch (hp.blockOf h)).setBlock (hp.blockOf h) { hp.block (hp.blockOf h) with data := d })
      (fun k => if k = h then d else hp.contents k) := by
  have hlt := gi.hnd h hh
  have hlive := gi.handle_live h hh
  have hpos : 0 < hp.blockOf h := Nat.pos_of_ne_zero (fun z => by rw [z, gi.z_rc] at hrc; omega)
  have k := gi.counted hpos hlt
  rw [touch_live hp _ hlive]
  refine ⟨ginv_setBlock gi hlt (fun z => by omega) (fun _ _ _ => rfl) (fun _ => ⟨k.dead, k.live, hd⟩), rfl, fun j hj => ?_⟩
  unfold Heap.contents
  rw [blockOf_setBlock, block_setBlock _ _ _ _ hlt]
  by_cases ej : j = h
  · subst ej; rw [if_pos rfl, if_pos rfl]
  · -- a reference count of one: no other handle points at the block
    have : hp.blockOf j ≠ hp.blockOf h := fun eq => by
      have := refs_two hp h j hh hj (Ne.symm ej) eq.symm
      have := (k.live hlive).1
      omega
    rw [if_neg this, if_neg ej]

/-- `detach`, then a write to the now exclusively owned block (`push`, `set`) -/
theorem detachWrite_post (hp : Heap) (h e : Nat) (f : List Nat → List Nat) (gi : Inv hp) (hh : h < hp.handles.length)
    (he : (hp.contents h).length ≤ e) (hf : (f (hp.contents h)).length ≤ e) :
    Post hp (((hp.detach h e).touch ((hp.detach h e).blockOf h)).setBlock ((hp.detach h e).blockOf h)
        { (hp.detach h e).block ((hp.detach h e).blockOf h) with data := f ((hp.detach h e).contents h) })
      (fun k => if k = h then f (hp.contents h) else hp.contents k) := by
  obtain ⟨p1, hrc, hroom⟩ := detach_post hp h e gi hh he
  have c1 := p1.con h hh
  generalize hp.detach h e = hp1 at p1 hrc hroom c1 ⊢
  have p2 := write_post hp1 h (f (hp1.contents h)) p1.inv (by rw [p1.len]; exact hh) hrc (by rw [c1]; exact Nat.le_trans hf hroom)
  refine ⟨p2.inv, p2.len.trans p1.len, fun k hk => ?_⟩
  rw [p2.con k (by rw [p1.len]; exact hk), c1]
  split
  · rfl
  · exact p1.con k hk

theorem clear_post (hp : Heap) (h : Nat) (gi : Inv hp) (hh : h < hp.handles.length) :
    Post hp (heapStep hp (.clear h)) (fun k => if k = h then [] else hp.contents k) := by
  show Post hp (if (hp.block (hp.blockOf h)).refcount != 1 then (hp.setHandle h 0).dropBlock (hp.blockOf h)
      else (hp.touch (hp.blockOf h)).setBlock (hp.blockOf h) { hp.block (hp.blockOf h) with data := [] }) _
  split
  · -- `*this = Vector()`: the default vector points at the static block
    have p := moveAssign_post gi.tmp_zero hh gi.len
    rw [gi.z_data] at p
    exact p
  · next c => exact write_post hp h [] gi hh (by simpa using c) (Nat.zero_le _)

/-- the handles an operation names exist -/
def Op.valid (n : Nat) : Op → Prop
  | .init h _ | .push h _ | .clear h | .set h _ _ => h < n
  | .copy h g | .assign h g | .move h g => h < n ∧ g < n

instance (n : Nat) (op : Op) : Decidable (op.valid n) := by
  cases op <;> unfold Op.valid <;> infer_instance

theorem abs_of_post {hp hp' : Heap} {f : Nat → List Nat} (p : Post hp hp' f) :
    hp'.abs = (List.range hp.handles.length).map f := by
  unfold Heap.abs
  rw [p.len]
  exact List.map_congr_left (fun k hk => p.con k (List.mem_range.mp hk))

theorem get_abs (hp : Heap) (k : Nat) (hk : k < hp.handles.length) : Spec.get hp.abs k = hp.contents k := by
  unfold Spec.get Heap.abs
  simp [hk]

theorem put_abs (n : Nat) (c : Nat → List Nat) (h : Nat) (v : List Nat) :
    Spec.put ((List.range n).map c) h v = (List.range n).map (fun k => if k = h then v else c k) := by
  unfold Spec.put
  apply List.ext_getElem
  · simp
  · intro i h1 h2
    simp only [List.getElem_set, List.getElem_map, List.getElem_range]
    by_cases e : h = i
    · simp [e]
    · have : ¬ i = h := fun x => e x.symm
      simp [e, this]

theorem Post.refines {hp hp' : Heap} {h : Nat} {v : List Nat} (p : Post hp hp' (fun k => if k = h then v else hp.contents k)) :
    Inv hp' ∧ hp'.handles.length = hp.handles.length ∧ hp'.abs = Spec.put hp.abs h v := by
  refine ⟨p.inv, p.len, ?_⟩
  rw [abs_of_post p]; unfold Heap.abs; rw [put_abs]

theorem step_refines (hp : Heap) (op : Op) (gi : Inv hp) (hv : op.valid hp.handles.length) :
    Inv (heapStep hp op) ∧ (heapStep hp op).handles.length = hp.handles.length ∧
      (heapStep hp op).abs = specStep hp.abs op := by
  cases op with
  | init h xs => exact (fresh_post hp h xs xs.length gi hv (Nat.le_refl _)).1.refines
  | copy h g => simp only [specStep, get_abs hp g hv.2]; exact (copy_post hp h g gi hv.1 hv.2).refines
  | assign h g => simp only [specStep, get_abs hp g hv.2]; exact (assign_post hp h g gi hv.1 hv.2).refines
  | move h g =>
    have p := move_post hp h g gi hv.1 hv.2
    refine ⟨p.inv, p.len, ?_⟩
    rw [abs_of_post p]
    simp only [specStep, get_abs hp g hv.2, get_abs hp h hv.1]
    unfold Heap.abs
    rw [put_abs, put_abs]
    split
    · next e =>
      -- swapping a handle with itself
      have e := beq_iff_eq.mp e
      subst e
      refine List.map_congr_left (fun k _ => ?_)
      split
      · next ek => rw [ek]
      · rfl
    · rfl
  | push h x =>
    simp only [specStep, get_abs hp h hv]
    exact (detachWrite_post hp h _ (· ++ [x]) gi hv (Nat.le_succ _) (by simp)).refines
  | clear h => exact (clear_post hp h gi hv).refines
  | set h i x =>
    simp only [specStep, get_abs hp h hv]
    exact (detachWrite_post hp h _ (·.set i x) gi hv (Nat.le_refl _) (by simp)).refines

theorem blockOf_init (n k : Nat) : (Heap.init n).blockOf k = 0 := by
  unfold Heap.blockOf Heap.init
  simp only [List.getD_eq_getElem?_getD, List.getElem?_replicate]
  split <;> rfl

theorem inv_init (n : Nat) : Inv (Heap.init n) := by
  have hl : ∀ b, 0 < b → ¬ b < (Heap.init n).blocks.length := fun _ h1 => Nat.not_lt.mpr h1
  exact { uaf := rfl, len := Nat.one_pos, z_rc := rfl, z_data := rfl, z_live := rfl,
          hnd := fun k _ => by rw [blockOf_init]; exact Nat.one_pos,
          dead := fun b h1 h2 => absurd h2 (hl b h1), live := fun b h1 h2 => absurd h2 (hl b h1),
          out := fun _ _ => rfl, cap := fun b h1 h2 => absurd h2 (hl b h1) }

theorem abs_init (n : Nat) : (Heap.init n).abs = List.replicate n [] := by
  have : (Heap.init n).contents = fun _ => [] := funext fun k => by unfold Heap.contents; rw [blockOf_init]; rfl
  unfold Heap.abs
  rw [this, List.map_const', List.length_range]
  exact congrArg (List.replicate · []) List.length_replicate

/-- every sequence of operations on existing handles: the heap model keeps its invariant and denotes
    exactly what the value-semantics spec computes -/
theorem run_refines (ops : List Op) (hp : Heap) (gi : Inv hp) (hv : ∀ op ∈ ops, op.valid hp.handles.length) :
    Inv (ops.foldl heapStep hp) ∧ (ops.foldl heapStep hp).abs = ops.foldl specStep hp.abs := by
  induction ops generalizing hp with
  | nil => exact ⟨gi, rfl⟩
  | cons op ops ih =>
    obtain ⟨h1, hl, h2⟩ := step_refines hp op gi (hv op (by simp))
    have := ih (heapStep hp op) h1 (fun o ho => by rw [hl]; exact hv o (by simp [ho]))
    simp only [List.foldl_cons]
    rw [← h2]; exact this

/-- the invariant rules out what the sanitizers look for: no freed block is ever read or written, no handle
    points at a freed block, and no block is leaked (every live block is reachable from a handle) -/
theorem inv_safe (hp : Heap) (gi : Inv hp) :
    hp.uaf = false ∧ (∀ h, h < hp.handles.length → (hp.block (hp.blockOf h)).freed = false) ∧ hp.leaked = [] := by
  refine ⟨gi.uaf, gi.handle_live, ?_⟩
  unfold Heap.leaked
  rw [List.filter_eq_nil_iff]
  intro b hb
  have hb2 := List.mem_range.mp hb
  by_cases hz : b = 0
  · simp [hz]
  · cases hf : (hp.block b).freed with
    | true => simp
    | false =>
      have := (gi.live b (Nat.pos_of_ne_zero hz) hb2 hf).2
      simp only [Nat.add_zero] at this
      simp [Nat.ne_of_gt this]

end Resolvo.Cow
