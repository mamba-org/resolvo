import Resolvo.Data.Arena
import Resolvo.Basics
namespace Resolvo.Arena
variable {α : Type}

/-- Shape invariant: chunks before `len / c` are full, chunk `len / c` (if present) holds
    `len % c` elements, later chunks are empty, and there is room for the next `alloc` to add at
    most one chunk. -/
structure Inv (a : A α) : Prop where
  pos : 0 < a.chunkSize
  full : ∀ k ch, k < a.len / a.chunkSize → a.chunks[k]? = some ch → ch.length = a.chunkSize
  cur : ∀ ch, a.chunks[a.len / a.chunkSize]? = some ch → ch.length = a.len % a.chunkSize
  later : ∀ k ch, a.len / a.chunkSize < k → a.chunks[k]? = some ch → ch.length = 0
  room : a.len / a.chunkSize ≤ a.chunks.length
  absentZero : a.chunks.length ≤ a.len / a.chunkSize → a.len % a.chunkSize = 0

/-- chunk `k`, an absent chunk read as empty -/
def chunk (a : A α) (k : Nat) : List α := a.chunks[k]?.getD []

theorem at?_eq_chunk (a : A α) (k o : Nat) : at? a k o = (chunk a k)[o]? := by
  unfold at? chunk
  cases a.chunks[k]? <;> rfl

theorem chunk_of_some {a : A α} {k : Nat} {ch : List α} (h : a.chunks[k]? = some ch) :
    chunk a k = ch := by
  rw [chunk, h]; rfl

theorem chunk_cases (a : A α) (k : Nat) :
    a.chunks[k]? = some (chunk a k) ∨ (a.chunks.length ≤ k ∧ chunk a k = []) := by
  unfold chunk
  cases h : a.chunks[k]? with
  | some ch => exact .inl rfl
  | none => exact .inr ⟨List.getElem?_eq_none_iff.mp h, rfl⟩

/-- `Inv` read on `chunk`: `room` and `absentZero` say that the absent chunks count as empty. -/
theorem inv_iff (a : A α) : Inv a ↔ 0 < a.chunkSize ∧
    (∀ k, k < a.len / a.chunkSize → (chunk a k).length = a.chunkSize) ∧
    (chunk a (a.len / a.chunkSize)).length = a.len % a.chunkSize ∧
    (∀ k, a.len / a.chunkSize < k → (chunk a k).length = 0) := by
  constructor
  · intro hi
    refine ⟨hi.pos, fun k hk => ?_, ?_, fun k hk => ?_⟩
    · rcases chunk_cases a k with h | ⟨h, _⟩
      · exact hi.full k _ hk h
      · exact absurd (Nat.lt_of_lt_of_le hk hi.room) (Nat.not_lt.mpr h)
    · rcases chunk_cases a (a.len / a.chunkSize) with h | ⟨h, e⟩
      · exact hi.cur _ h
      · rw [e, hi.absentZero h]; rfl
    · rcases chunk_cases a k with h | ⟨_, e⟩
      · exact hi.later k _ hk h
      · rw [e]; rfl
  · intro ⟨hc, hfull, hcur, hlater⟩
    refine ⟨hc, fun k ch hk h => chunk_of_some h ▸ hfull k hk, fun ch h => chunk_of_some h ▸ hcur,
      fun k ch hk h => chunk_of_some h ▸ hlater k hk, Nat.le_of_not_lt fun h => ?_, fun h => ?_⟩
    · have := hfull _ h
      rw [chunk, List.getElem?_eq_none (Nat.le_refl _)] at this
      exact Nat.ne_of_lt hc this
    · rw [← hcur, chunk, List.getElem?_eq_none h]; rfl

theorem chunk_withCapacity (c n k : Nat) : chunk (withCapacity c n : A α) k = [] := by
  simp only [chunk, withCapacity, List.getElem?_replicate]
  split <;> rfl

theorem inv_withCapacity (c n : Nat) (hc : 0 < c) : Inv (withCapacity c n : A α) := by
  rw [inv_iff]
  refine ⟨hc, fun k hk => ?_, ?_, fun k _ => ?_⟩
  · exact absurd (Nat.zero_div c ▸ hk) (Nat.not_lt_zero k)
  · rw [chunk_withCapacity]; exact (Nat.zero_mod c).symm
  · rw [chunk_withCapacity]; rfl

theorem alloc_id (a : A α) (x : α) : (alloc a x).2 = a.len := rfl
theorem alloc_len (a : A α) (x : α) : (alloc a x).1.len = a.len + 1 := rfl
theorem alloc_chunkSize (a : A α) (x : α) : (alloc a x).1.chunkSize = a.chunkSize := rfl

theorem chunk_alloc (a : A α) (h : a.len / a.chunkSize ≤ a.chunks.length) (x : α) (k : Nat) :
    chunk (alloc a x).1 k = if k = a.len / a.chunkSize then chunk a k ++ [x] else chunk a k := by
  simp only [chunk, alloc, List.getElem?_modify]
  split
  · subst ‹_ = k›
    rw [if_pos rfl]
    split
    · rw [Nat.le_antisymm h ‹_›, List.getElem?_concat_length, List.getElem?_eq_none (Nat.le_refl _)]
      rfl
    · rw [List.getElem?_eq_getElem (Nat.lt_of_not_le ‹_›)]; rfl
  · rw [if_neg (Ne.symm ‹_›), id_map']
    split
    · exact getD_append_nil _ _
    · rfl

theorem inv_alloc (a : A α) (hi : Inv a) (x : α) : Inv (alloc a x).1 := by
  have hch := chunk_alloc a hi.room x
  obtain ⟨hc, hfull, hcur, hlater⟩ := (inv_iff a).mp hi
  rw [inv_iff, alloc_len, alloc_chunkSize]
  rcases succ_div_mod hc a.len with ⟨_, hq, hr⟩ | ⟨hwrap, hq, hr⟩
  · rw [hq, hr]
    refine ⟨hc, fun k hk => ?_, ?_, fun k hk => ?_⟩
    · rw [hch, if_neg (Nat.ne_of_lt hk)]; exact hfull k hk
    · rw [hch, if_pos rfl, List.length_append, hcur]; rfl
    · rw [hch, if_neg (Nat.ne_of_gt hk)]; exact hlater k hk
  · rw [hq, hr]
    refine ⟨hc, fun k hk => ?_, ?_, fun k hk => ?_⟩
    · rw [hch]
      split
      · rw [List.length_append, ‹k = _›, hcur]; exact hwrap
      · exact hfull k (by omega)
    · rw [hch, if_neg (Nat.succ_ne_self _)]; exact hlater _ (Nat.lt_succ_self _)
    · rw [hch, if_neg (by omega)]; exact hlater k (by omega)

theorem inv_foldl_alloc (a : A α) (hi : Inv a) (xs : List α) :
    Inv (xs.foldl (fun a x => (alloc a x).1) a) :=
  List.foldlRecOn xs _ hi fun a ha x _ => inv_alloc a ha x

/-- Address stability: after `alloc`, every address holds what it held before, except the one
    new address `(len / c, len % c)`, which holds the new element. -/
theorem at?_alloc (a : A α) (hi : Inv a) (x : α) (k o : Nat) :
    at? (alloc a x).1 k o =
      if k = a.len / a.chunkSize ∧ o = a.len % a.chunkSize then some x else at? a k o := by
  rw [at?_eq_chunk, at?_eq_chunk, chunk_alloc a hi.room]
  by_cases hk : k = a.len / a.chunkSize
  · rw [if_pos hk, getElem?_concat, hk, ((inv_iff a).mp hi).2.2.1]
    simp only [true_and]
  · rw [if_neg hk, if_neg (fun h => hk h.1)]

theorem get?_lt (a : A α) (id : Nat) (v : α) (h : get? a id = some v) : id < a.len := by
  unfold get? at h
  split at h
  · assumption
  · cases h

/-- elements beyond `len` are never visible, stored elements never change, the new one is there -/
theorem get?_alloc (a : A α) (hi : Inv a) (x : α) (id : Nat) :
    get? (alloc a x).1 id = if id = a.len then some x else get? a id := by
  unfold get?
  rw [alloc_len, alloc_chunkSize, at?_alloc a hi]
  by_cases hid : id = a.len
  · simp only [hid, Nat.lt_succ_self, and_self, if_true]
  · have hlt : id < a.len + 1 ↔ id < a.len := by omega
    -- an id and its address determine each other: `(id / c, id % c) = (len / c, len % c)` only if `id = len`
    simp only [← Nat.ext_div_mod_iff, hlt, hid, if_false]

end Resolvo.Arena

namespace Resolvo.Pool
open Resolvo.Arena
variable {α : Type} [BEq α]

theorem intern_of_lookup {t : Tbl α} {x : α} {id : Nat} (h : t.lookup x = some id) :
    t.intern x = (t, id) := by
  unfold Tbl.lookup at h
  unfold Tbl.intern
  rw [h]

end Resolvo.Pool
