import Resolvo.Abs.Clause
import Resolvo.Sat.RupProofs
/-!
# Soundness of the abstract system, logical part

Invariants of every state reachable through accepted steps, about the clause database as a
propositional formula (no reference yet to what the clauses mean for the provider universe):
learnt clauses are entailed by the non-learnt ones, trail entries follow from the database and
the decisions below them, and a recorded failure means `db ∧ root` is unsatisfiable.
-/
namespace Resolvo.Abs
open Resolvo Resolvo.Sat

def isLearnt (cl : ACl) : Bool := match cl.kind with | .learnt _ => true | _ => false

def SatDb (a : Nat → Bool) (db : List ACl) : Prop := ∀ cl ∈ db, evalClause a cl.lits = true
def SatNL (a : Nat → Bool) (db : List ACl) : Prop := ∀ cl ∈ db, isLearnt cl = false → evalClause a cl.lits = true

/-- every entry is a decision or follows from the database and the entries below it -/
def TrailOK (db : List ACl) : List Entry → Prop
  | [] => True
  | e :: rest => TrailOK db rest ∧
      (e.decision = true ∨ ∀ a, SatDb a db → (∀ e' ∈ rest, a e'.var = e'.val) → a e.var = e.val)

theorem TrailOK.all (db : List ACl) (trail : List Entry) (h : TrailOK db trail) (a : Nat → Bool)
    (hsat : SatDb a db) (hdec : ∀ e ∈ trail, e.decision = true → a e.var = e.val) :
    ∀ e ∈ trail, a e.var = e.val := by
  induction trail with
  | nil => intro e he; cases he
  | cons e rest ih =>
    obtain ⟨hrest, he⟩ := h
    have hr := ih hrest (fun e' he' hd => hdec e' (List.mem_cons_of_mem _ he') hd)
    intro e' he'
    rcases List.mem_cons.mp he' with rfl | h'
    · rcases he with hd | himp
      · exact hdec _ List.mem_cons_self hd
      · exact himp a hsat hr
    · exact hr e' h'

theorem TrailOK.mono (db db' : List ACl) (hsub : ∀ a, SatDb a db' → SatDb a db) (trail : List Entry)
    (h : TrailOK db trail) : TrailOK db' trail := by
  induction trail with
  | nil => trivial
  | cons e rest ih =>
    obtain ⟨hrest, he⟩ := h
    refine ⟨ih hrest, ?_⟩
    rcases he with hd | himp
    · exact Or.inl hd
    · exact Or.inr (fun a hs hr => himp a (hsub a hs) hr)

structure LInv (st : St) : Prop where
  learntEntailed : ∀ a, SatNL a st.db → SatDb a st.db
  trailOK : TrailOK st.db st.trail
  failedOK : st.failed.isSome = true → ¬ ∃ a, SatDb a st.db ∧ a 0 = true

theorem linv_init : LInv ({} : St) := by
  refine ⟨?_, trivial, ?_⟩
  · intro a _ cl hcl; cases hcl
  · intro h; cases h

theorem valueOf_some (st : St) (v : Nat) (b : Bool) (h : st.valueOf v = some b) :
    ∃ e ∈ st.trail, e.var = v ∧ e.val = b := by
  obtain ⟨e, hf, rfl⟩ := Option.map_eq_some_iff.mp h
  exact ⟨e, List.mem_of_find?_eq_some hf, by simpa using List.find?_some hf, rfl⟩

theorem litFalse_spec (st : St) (l : Lit) (h : st.litFalse l = true) :
    ∃ e ∈ st.trail, e.var = l.1 ∧ e.val = !l.2 := by
  unfold St.litFalse at h
  exact valueOf_some st l.1 (!l.2) (by simpa using h)

theorem agrees_valueOf {st : St} {a : Nat → Bool} (h : ∀ e ∈ st.trail, a e.var = e.val) {v : Nat} {b : Bool}
    (hv : st.valueOf v = some b) : a v = b := by
  obtain ⟨e, he, rfl, rfl⟩ := valueOf_some st v b hv
  exact h e he

theorem evalLit_of_litFalse (st : St) (a : Nat → Bool) (htr : ∀ e ∈ st.trail, a e.var = e.val)
    (l : Lit) (h : st.litFalse l = true) : evalLit a l = false := by
  simp only [evalLit, agrees_valueOf htr (beq_iff_eq.mp h)]
  cases l.2 <;> rfl

theorem satDb_append (a : Nat → Bool) (db : List ACl) (cl : ACl) :
    SatDb a (db ++ [cl]) ↔ SatDb a db ∧ evalClause a cl.lits = true := by
  simp only [SatDb, List.mem_append, List.mem_singleton, or_imp, forall_and, forall_eq]

theorem mkClause_entailed (U : Universe) (P : Problem) (st : St) (k : Kind) (cands : List (List Nat)) (cl : ACl)
    (hm : mkClause U P st k cands = some cl) (hL : isLearnt cl = true) (a : Nat → Bool) (hdb : SatDb a st.db) :
    evalClause a cl.lits = true := by
  obtain ⟨hk, _, hrup⟩ := mkClause_spec hm
  cases k with
  | learnt idx =>
    obtain ⟨why, hlt, hr⟩ := hrup
    refine rup_sound _ _ hr a (List.all_eq_true.mpr fun c hc => ?_)
    obtain ⟨w, hw, rfl⟩ := List.mem_map.mp hc
    rw [List.getD_eq_getElem?_getD, List.getElem?_eq_getElem (hlt w hw)]
    exact hdb _ (List.getElem_mem _)
  | _ => simp [isLearnt, hk] at hL

/-- unit propagation: a model of the database that agrees with the trail makes the one literal true that the trail
    does not make false -/
theorem unit_of_litFalse (st : St) (a : Nat → Bool) (hsat : SatDb a st.db) (htr : ∀ e ∈ st.trail, a e.var = e.val)
    (cl : ACl) (hcl : cl ∈ st.db) (u : Lit) (hc : ∀ l ∈ cl.lits, l = u ∨ st.litFalse l = true) : evalLit a u = true := by
  obtain ⟨l, hl, hlv⟩ := List.any_eq_true.mp (hsat cl hcl)
  rcases hc l hl with rfl | h1
  · exact hlv
  · rw [evalLit_of_litFalse st a htr l h1] at hlv; cases hlv

theorem Step.linv {U : Universe} {P : Problem} {st st' : St} {ev : Event}
    (hs : Step U P st ev st') (hi : LInv st) : LInv st' := by
  cases hs with
  | note => exact hi
  | pend | var => exact ⟨hi.1, hi.2, hi.3⟩
  | decide => exact ⟨hi.1, ⟨hi.2, Or.inl rfl⟩, hi.3⟩
  | clear => exact ⟨hi.1, trivial, hi.3⟩
  | undo e rest htr => exact ⟨hi.1, (htr ▸ hi.2).1, hi.3⟩
  | clause id k cands cl pend hm =>
    have hold : ∀ a, SatDb a (st.db ++ [cl]) → SatDb a st.db := fun a h => ((satDb_append a st.db cl).mp h).1
    refine ⟨fun a hnl => ?_, TrailOK.mono st.db _ hold _ hi.2, fun hf ⟨a, hsat, hr⟩ => hi.3 hf ⟨a, hold a hsat, hr⟩⟩
    have hdb := hi.1 a fun c hc => hnl c (List.mem_append_left _ hc)
    refine (satDb_append a st.db cl).mpr ⟨hdb, ?_⟩
    cases hL : isLearnt cl with
    | false => exact hnl cl (by simp) hL
    | true => exact mkClause_entailed U P st k cands cl hm hL a hdb
  | propagate v val level reason cl hcl hc =>
    refine ⟨hi.1, ⟨hi.2, Or.inr fun a hsat hold => ?_⟩, hi.3⟩
    simpa [evalLit] using unit_of_litFalse st a hsat hold cl (List.mem_of_getElem? hcl) (v, val) hc
  | fail c cl hcl hf hdec =>
    refine ⟨hi.1, hi.2, fun _ ⟨a, hsat, hroot⟩ => ?_⟩
    have hall := TrailOK.all _ _ hi.2 a hsat fun e he hd => by rw [(hdec e he hd).1, (hdec e he hd).2]; exact hroot
    have h1 := unit_of_litFalse st a hsat hall cl (List.mem_of_getElem? hcl) (0, false) fun l hl => Or.inr (hf l hl)
    simp [evalLit, hroot] at h1

theorem step_linv (U : Universe) (P : Problem) (st st' : St) (ev : Event)
    (hi : LInv st) (hs : step U P st ev = some st') : LInv st' := (step_sound hs).linv hi

end Resolvo.Abs
