import Resolvo.Abs.Sound
/-!
# An accepted history that records a failure proves the hard problem unsolvable
-/
namespace Resolvo.Abs
open Resolvo Resolvo.Sat

/-- The assignment a valid selection induces on the solver's variables: root true, a solvable's
    variable true iff selected, a helper variable true iff some selected solvable has a clause
    `(¬a ∨ h)` asking for it. -/
def mu (st : St) (sel : List Nat) (v : Nat) : Bool :=
  match st.origins.lookup v with
  | some .root => true
  | some (.solvable s) => sel.contains s
  | some (.forbid _) => st.db.any (fun cl => match cl.kind with
      | .forbid a h true _ => h == v && (match oSolv st.origins a with | some s => sel.contains s | none => false)
      | _ => false)
  | none => false

theorem mu_solv (st : St) (sel : List Nat) (v s : Nat) (h : oSolv st.origins v = some s) :
    mu st sel v = sel.contains s := by
  unfold mu
  rw [oSolv_eq_some.mp h]

theorem mu_of_not_mem (st : St) (sel : List Nat) (v s : Nat) (h : oSolv st.origins v = some s) (hn : s ∉ sel) :
    mu st sel v = false := by
  rw [mu_solv st sel v s h]
  exact Bool.eq_false_iff.mpr fun hc => hn (List.contains_iff_mem.mp hc)

theorem mu_forbid (st : St) (sel : List Nat) (h n : Nat) (hl : st.origins.lookup h = some (.forbid n)) :
    mu st sel h = true ↔
      ∃ cl ∈ st.db, ∃ a n' s, cl.kind = .forbid a h true n' ∧ oSolv st.origins a = some s ∧ s ∈ sel := by
  unfold mu
  rw [hl]
  simp only [List.any_eq_true]
  constructor
  · rintro ⟨cl, hcl, hc⟩
    split at hc
    · next a h' n' hk =>
      simp only [Bool.and_eq_true, beq_iff_eq] at hc
      obtain ⟨rfl, hs⟩ := hc
      split at hs
      · next s hos => exact ⟨cl, hcl, a, n', s, hk, hos, List.contains_iff_mem.mp hs⟩
      · cases hs
    · cases hc
  · rintro ⟨cl, hcl, a, n', s, hk, hos, hs⟩
    exact ⟨cl, hcl, by simp [hk, hos, hs]⟩

theorem evalLit_neg_of_false (a : Nat → Bool) (v : Nat) (h : a v = false) : evalLit a (v, false) = true := by
  simp [evalLit, h]

theorem evalClause_of_lit {a : Nat → Bool} {v : Nat} {b : Bool} {c : Clause} (h : a v = b) (hm : (v, b) ∈ c) : evalClause a c = true :=
  List.any_eq_true.mpr ⟨_, hm, beq_iff_eq.mpr h⟩

theorem parent_met {U : Universe} {P : Problem} {st : St} {sel : List Nat}
    (hv : Valid U P.hard sel []) {p : Nat} {reqs : List Req} {cons : List Nat}
    (hpd : oParentDeps U P st.origins p = some (reqs, cons)) (hp : mu st sel p = true) :
    DepsMet U sel reqs cons := by
  rcases oParentDeps_eq_some.mp hpd with ⟨_, rfl, rfl⟩ | ⟨s, hs, hd⟩
  · exact hv.1
  · obtain ⟨_, _, hd', hm⟩ := hv.2.1 s (List.contains_iff_mem.mp ((mu_solv st sel p s hs).symm.trans hp))
    rw [hd] at hd'
    cases hd'
    exact hm

theorem mu_root (U : Universe) (P : Problem) (st : St) (hi : SInv U P st) (sel : List Nat) :
    mu st sel 0 = true := by
  unfold mu; rw [hi.rootOrigin]

/-- What a true clause kind means under the assignment a valid selection induces. Whoever holds the clause's literals
    (the abstract system: `Prov`, below; the exact model: `MDet.clause_sound`) only has to point at the literal. -/
theorem mu_kind {U : Universe} {P : Problem} {st : St} {sel : List Nat} (hv : Valid U P.hard sel []) {k : Kind}
    (hk : KindTrue U P st.origins k) :
    match (generalizing := false) k with
    | .requires p r => mu st sel p = true → ∃ c ∈ U.reqCands r, c ∈ sel
    | .constrains p c _ => mu st sel p = true → mu st sel c = false
    | .lock _ o => mu st sel o = false
    | .excluded v _ => mu st sel v = false
    | _ => True := by
  cases k with
  | root | learnt | forbid => trivial
  | requires p r =>
    obtain ⟨reqs, cons, h1, h2⟩ := hk
    exact fun hmp => (parent_met hv h1 hmp).1 r h2
  | constrains p c vs =>
    obtain ⟨⟨reqs, cons, h1, h2⟩, t, h3, h4⟩ := hk
    exact fun hmp => mu_of_not_mem st sel c t h3 ((parent_met hv h1 hmp).2 vs h2 t h4)
  | lock l o =>
    obtain ⟨ls, os, p, _, h2, h3, h4, h5⟩ := hk
    refine mu_of_not_mem st sel o os h2 fun hos => ?_
    have := (hv.2.2.1 os hos (by simp)).2
    simp [Universe.lockedOut, h3, h4, Ne.symm h5] at this
  | excluded v reason =>
    obtain ⟨s, h1, h2⟩ := hk
    refine mu_of_not_mem st sel v s h1 fun hs => ?_
    rcases h2 with hd | ⟨p, hp1, hp2⟩
    · obtain ⟨_, _, hd', _⟩ := hv.2.1 s hs
      rw [hd] at hd'; cases hd'
    · have := (hv.2.2.1 s hs (by simp)).1
      simp only [Universe.excluded, hp1] at this
      have hany : p.excluded.any (fun e => e.1 == s) = true := List.any_eq_true.mpr ⟨(s, reason), hp2, by simp⟩
      rw [hany] at this
      cases this

/-- Every non-learnt clause of an accepted history is satisfied by the assignment that a
    valid selection induces. -/
theorem mu_satisfies (U : Universe) (P : Problem) (st : St) (hi : SInv U P st) (sel : List Nat)
    (hv : Valid U P.hard sel []) : SatNL (mu st sel) st.db := by
  intro cl hcl hnl
  have hp := hi.prov cl hcl
  have hk := mu_kind (sel := sel) hv (prov_kindTrue U P _ _ hp)
  -- every case names a literal of the clause that `mu` makes true
  obtain ⟨k, lits⟩ := cl
  cases k with
  | learnt idx => cases hnl
  | root => cases hp; exact evalClause_of_lit (mu_root U P st hi sel) List.mem_cons_self
  | requires p r =>
    obtain ⟨_, _, vars, _, _, _, h4, _, rfl⟩ := hp
    cases hmp : mu st sel p with
    | false => exact evalClause_of_lit hmp List.mem_cons_self
    | true =>
      obtain ⟨c, hc, hcs⟩ := hk hmp
      obtain ⟨v, hvm, hvs⟩ := List.mem_filterMap.mp (h4 c hc)
      exact evalClause_of_lit ((mu_solv st sel v c hvs).trans (List.contains_iff_mem.mpr hcs))
        (List.mem_cons_of_mem _ (List.mem_map.mpr ⟨v, hvm, rfl⟩))
  | constrains p c vs =>
    obtain ⟨_, _, _, _, _, _, _, rfl⟩ := hp
    cases hmp : mu st sel p with
    | false => exact evalClause_of_lit hmp List.mem_cons_self
    | true => exact evalClause_of_lit (hk hmp) (by simp)
  | lock l o =>
    obtain ⟨_, _, _, _, _, _, _, _, rfl⟩ := hp
    exact evalClause_of_lit hk (by simp)
  | excluded v reason =>
    obtain ⟨_, _, _, rfl⟩ := hp
    exact evalClause_of_lit hk List.mem_cons_self
  | forbid a h pos n =>
    obtain ⟨s, h1, h2, h3, rfl⟩ := hp
    cases hma : mu st sel a with
    | false => exact evalClause_of_lit hma List.mem_cons_self
    | true =>
      have hsa : s ∈ sel := List.contains_iff_mem.mp ((mu_solv st sel a s h1).symm.trans hma)
      cases pos with
      | true => exact evalClause_of_lit ((mu_forbid st sel h n h2).mpr ⟨_, hcl, a, n, s, rfl, h1, hsa⟩) (by simp)
      | false =>
        refine evalClause_of_lit (v := h) (Bool.eq_false_iff.mpr fun hmh => ?_) (by simp)
        -- a selected solvable of the same package asks for `h`: it is `s`, and the two clauses disagree on `h`
        obtain ⟨cl', hcl', a', n', s', hk', hos', hs'⟩ := (mu_forbid st sel h n h2).mp hmh
        have hp' := hi.prov cl' hcl'
        unfold Prov at hp'
        rw [hk'] at hp'
        obtain ⟨s'', g1, g2, g3, _⟩ := hp'
        obtain rfl : s'' = s' := Option.some.inj (g1.symm.trans hos')
        obtain rfl : n' = n := by rw [h2] at g2; cases g2; rfl
        obtain rfl := hv.2.2.2 s'' hs' s hsa (g3.trans h3.symm)
        obtain rfl := hi.oSolv_inj hos' h1
        cases hi.consistent cl' hcl' _ hcl a' h true false n' n' hk' rfl

theorem runOpt_inv {U : Universe} {P : Problem} {evs : List Event} {st : St} (h : runOpt U P evs = some st) :
    LInv st ∧ SInv U P st :=
  foldlM_inv (fun st => LInv st ∧ SInv U P st)
    (fun _ _ _ hi hs => ⟨step_linv U P _ _ _ hi.1 hs, step_sinv U P _ _ _ hi.2 hs⟩) evs {} st
    ⟨linv_init, sinv_init U P⟩ h

theorem mu_sat {U : Universe} {P : Problem} {st : St} (hl : LInv st) (hs : SInv U P st) {sel : List Nat}
    (hv : Valid U P.hard sel []) : SatDb (mu st sel) st.db :=
  hl.learntEntailed _ (mu_satisfies U P st hs sel hv)

/-- **Failure soundness.** If a history is accepted by the abstract system and records a failure
    (a clause falsified by a trail whose only decision is the root), the hard problem has no
    valid solution. -/
theorem fail_sound (U : Universe) (P : Problem) (evs : List Event) (st : St)
    (hrun : runOpt U P evs = some st) (hfail : st.failed.isSome = true) : ¬ Solvable U P := by
  obtain ⟨hl, hs⟩ := runOpt_inv hrun
  rintro ⟨sel, hv⟩
  exact hl.failedOK hfail ⟨mu st sel, mu_sat hl hs hv, mu_root U P st hs sel⟩

end Resolvo.Abs
