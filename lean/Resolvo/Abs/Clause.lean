import Resolvo.Abs.Step
import Resolvo.Basics
/-!
# What the checker establishes about a single clause

`Prov`: the fact of the provider universe that a clause of each kind states, in terms of the variable origins alone.
`mkClause_spec` is the one place where `mkClause` is unfolded; `prov_mono`: the facts survive the interning of further
variables.
-/
namespace Resolvo.Abs
open Resolvo Resolvo.Sat

abbrev Org := List (Nat × Origin)

def oSolv (org : Org) (v : Nat) : Option Nat :=
  match org.lookup v with | some (.solvable s) => some s | _ => none

def oParentDeps (U : Universe) (P : Problem) (org : Org) (p : Nat) : Option (List Req × List Nat) :=
  match org.lookup p with
  | some .root => some (P.reqs, P.constraints)
  | some (.solvable s) => match U.deps s with | .known reqs cons => some (reqs, cons) | .unknown _ => none
  | _ => none

theorem solvOf_eq (st : St) (v : Nat) : st.solvOf v = oSolv st.origins v := rfl
theorem parentDeps_eq (U : Universe) (P : Problem) (st : St) (p : Nat) :
    parentDeps U P st p = oParentDeps U P st.origins p := rfl

theorem oSolv_eq_some {org : Org} {v s : Nat} : oSolv org v = some s ↔ org.lookup v = some (.solvable s) := by
  unfold oSolv
  split <;> simp_all

theorem oParentDeps_eq_some {U : Universe} {P : Problem} {org : Org} {p : Nat} {reqs : List Req} {cons : List Nat} :
    oParentDeps U P org p = some (reqs, cons) ↔
      (org.lookup p = some .root ∧ reqs = P.reqs ∧ cons = P.constraints) ∨
      ∃ s, oSolv org p = some s ∧ U.deps s = .known reqs cons := by
  unfold oParentDeps
  split
  · next h => simp [h, oSolv, eq_comm]
  · next s h =>
    simp only [h, oSolv, Option.some.injEq, exists_eq_left', reduceCtorEq, false_and, false_or]
    split <;> simp_all
  · next h1 h2 =>
    simp only [reduceCtorEq, oSolv_eq_some, false_iff, not_or, not_and, not_exists]
    exact ⟨fun h => absurd h h1, fun s h => absurd h (h2 s)⟩

/-- What the provenance check establishes about a clause. -/
def Prov (U : Universe) (P : Problem) (org : Org) (cl : ACl) : Prop :=
  match cl.kind with
  | .root => cl.lits = [(0, true)]
  | .requires p r => ∃ (reqs : List Req) (cons : List Nat) (vars : List Nat), oParentDeps U P org p = some (reqs, cons) ∧ r ∈ reqs ∧
      (∀ v ∈ vars, (oSolv org v).isSome = true) ∧
      (∀ x ∈ U.reqCands r, x ∈ vars.filterMap (oSolv org)) ∧
      (∀ x ∈ vars.filterMap (oSolv org), x ∈ U.reqCands r) ∧
      cl.lits = (p, false) :: vars.map (fun v => (v, true))
  | .constrains p c vs => ∃ reqs cons t, oParentDeps U P org p = some (reqs, cons) ∧ vs ∈ cons ∧
      oSolv org c = some t ∧ t ∈ U.nonMatching vs ∧ cl.lits = [(p, false), (c, false)]
  | .forbid a h pos n => ∃ s, oSolv org a = some s ∧ org.lookup h = some (.forbid n) ∧ U.nameOf s = n ∧
      cl.lits = [(a, false), (h, pos)]
  | .lock l o => ∃ ls os p, oSolv org l = some ls ∧ oSolv org o = some os ∧
      U.pkg? (U.nameOf os) = some p ∧ p.locked = some ls ∧ os ≠ ls ∧ cl.lits = [(0, false), (o, false)]
  | .excluded v reason => ∃ s, oSolv org v = some s ∧
      (U.deps s = .unknown reason ∨ ∃ p, U.pkg? (U.nameOf s) = some p ∧ (s, reason) ∈ p.excluded) ∧
      cl.lits = [(v, false)]
  | .learnt _ => True

/-- The fact a clause kind states, apart from the clause's literals: a `requires p r` belongs to `p`'s requirements, a
    `constrains p c vs` to its constrains and `c` does not match, lock / exclusion clauses reflect the package's lock /
    exclusion list or unknown dependencies, a forbid clause is about a solvable of the named package. This is all that
    `Conflict::graph` reads off a clause. -/
def KindTrue (U : Universe) (P : Problem) (org : Org) : Kind → Prop
  | .root => True
  | .learnt _ => True
  | .requires p r => ∃ reqs cons, oParentDeps U P org p = some (reqs, cons) ∧ r ∈ reqs
  | .constrains p c vs => (∃ reqs cons, oParentDeps U P org p = some (reqs, cons) ∧ vs ∈ cons) ∧
      ∃ t, oSolv org c = some t ∧ t ∈ U.nonMatching vs
  | .forbid a _ _ n => ∃ s, oSolv org a = some s ∧ U.nameOf s = n
  | .lock l o => ∃ ls os p, oSolv org l = some ls ∧ oSolv org o = some os ∧
      U.pkg? (U.nameOf os) = some p ∧ p.locked = some ls ∧ os ≠ ls
  | .excluded v reason => ∃ s, oSolv org v = some s ∧
      (U.deps s = .unknown reason ∨ ∃ p, U.pkg? (U.nameOf s) = some p ∧ (s, reason) ∈ p.excluded)

theorem prov_kindTrue (U : Universe) (P : Problem) (org : Org) (cl : ACl) (h : Prov U P org cl) : KindTrue U P org cl.kind := by
  obtain ⟨k, lits⟩ := cl
  cases k with
  | root | learnt => trivial
  | requires p r =>
    obtain ⟨reqs, cons, vars, h1, h2, _⟩ := h
    exact ⟨reqs, cons, h1, h2⟩
  | constrains p c vs =>
    obtain ⟨reqs, cons, t, h1, h2, h3, h4, _⟩ := h
    exact ⟨⟨reqs, cons, h1, h2⟩, t, h3, h4⟩
  | forbid a hh pos n =>
    obtain ⟨s, h1, _, h3, _⟩ := h
    exact ⟨s, h1, h3⟩
  | lock l o =>
    obtain ⟨ls, os, p, h1, h2, h3, h4, h5, _⟩ := h
    exact ⟨ls, os, p, h1, h2, h3, h4, h5⟩
  | excluded v reason =>
    obtain ⟨s, h1, h2, _⟩ := h
    exact ⟨s, h1, h2⟩

theorem subsetB_spec (a b : List Nat) (h : subsetB a b = true) : ∀ x ∈ a, x ∈ b := by
  intro x hx
  exact List.contains_iff_mem.mp (List.all_eq_true.mp h x hx)

/-- What the checker has established when it admits a clause: its kind, the fact it states, the derivation of a learnt
    clause from earlier ones, and that no earlier forbid clause uses the same helper variable for the same solvable
    with the other polarity. -/
theorem mkClause_spec {U : Universe} {P : Problem} {st : St} {k : Kind} {cands : List (List Nat)} {cl : ACl}
    (h : mkClause U P st k cands = some cl) :
    cl.kind = k ∧ Prov U P st.origins cl ∧
    match (generalizing := false) k with
    | .learnt _ => ∃ why : List Nat, (∀ w ∈ why, w < st.db.length) ∧
        rup (why.map (fun w => (st.db.getD w default).lits)) cl.lits = true
    | .forbid a hh pos _ => ∀ cl' ∈ st.db, ∀ p' n', cl'.kind = .forbid a hh p' n' → p' = pos
    | _ => True := by
  unfold mkClause at h
  cases k with
  | root => cases h; exact ⟨rfl, rfl, trivial⟩
  | requires p r =>
    simp only [] at h
    split at h
    · next reqs cons hpd =>
      obtain ⟨hc, rfl⟩ := Option.ite_some_none_eq_some.mp h
      simp only [Bool.and_eq_true, List.all_eq_true] at hc
      obtain ⟨⟨⟨h1, h2⟩, h3⟩, h4⟩ := hc
      exact ⟨rfl, ⟨reqs, cons, cands.flatten, hpd, List.contains_iff_mem.mp h2, h1,
        subsetB_spec _ _ h4, subsetB_spec _ _ h3, rfl⟩, trivial⟩
    · cases h
  | constrains p c vs =>
    simp only [] at h
    split at h
    · next reqs cons t hpd hc =>
      obtain ⟨hcond, rfl⟩ := Option.ite_some_none_eq_some.mp h
      simp only [Bool.and_eq_true] at hcond
      exact ⟨rfl, ⟨reqs, cons, t, hpd, List.contains_iff_mem.mp hcond.1, hc, List.contains_iff_mem.mp hcond.2, rfl⟩,
        trivial⟩
    · cases h
  | forbid a hh pos n =>
    simp only [] at h
    split at h
    · next s n' ha ho =>
      obtain ⟨hcond, rfl⟩ := Option.ite_some_none_eq_some.mp h
      simp only [Bool.and_eq_true, beq_iff_eq, List.all_eq_true] at hcond
      obtain ⟨⟨rfl, hn⟩, hall⟩ := hcond
      refine ⟨rfl, ⟨s, ha, ho, hn, rfl⟩, fun cl' hcl' p' m hk => ?_⟩
      have := hall cl' hcl'
      rw [hk] at this
      simpa using this
    · cases h
  | lock l o =>
    simp only [] at h
    split at h
    · next ls os hl ho =>
      split at h
      · next p hp =>
        obtain ⟨hcond, rfl⟩ := Option.ite_some_none_eq_some.mp h
        simp only [Bool.and_eq_true, beq_iff_eq, bne_iff_ne, ne_eq] at hcond
        exact ⟨rfl, ⟨ls, os, p, hl, ho, hp, hcond.1, hcond.2, rfl⟩, trivial⟩
      · cases h
    · cases h
  | excluded v reason =>
    simp only [] at h
    split at h
    · next s hv =>
      obtain ⟨hcond, rfl⟩ := Option.ite_some_none_eq_some.mp h
      refine ⟨rfl, ⟨s, hv, ?_, rfl⟩, trivial⟩
      rcases Bool.or_eq_true _ _ ▸ hcond with h1 | h1
      · left
        split at h1
        · next r hd => rw [hd, beq_iff_eq.mp h1]
        · cases h1
      · right
        split at h1
        · next p hp =>
          obtain ⟨e, he, hev⟩ := List.any_eq_true.mp h1
          simp only [Bool.and_eq_true, beq_iff_eq] at hev
          exact ⟨p, hp, (Prod.ext hev.1 hev.2 : e = (s, reason)) ▸ he⟩
        · cases h1
    · cases h
  | learnt idx =>
    simp only [] at h
    split at h
    · next idx' lits why _ =>
      obtain ⟨hc, rfl⟩ := Option.ite_some_none_eq_some.mp h
      simp only [Bool.and_eq_true, List.all_eq_true, decide_eq_true_eq] at hc
      exact ⟨rfl, trivial, why, hc.1.2, hc.2⟩
    · cases h

/-! ### `Prov` reads the origins only through lookups that succeed, and the origins only grow -/

theorem lookup_cons_stable (org : Org) (v : Nat) (o : Origin) (hfresh : org.lookup v = none)
    (w : Nat) (x : Origin) (h : org.lookup w = some x) : ((v, o) :: org).lookup w = some x := by
  rw [List.lookup_cons]
  split
  · next heq => rw [beq_iff_eq.mp heq, hfresh] at h; cases h
  · exact h

section mono
variable {org org' : Org} (hm : ∀ v o, org.lookup v = some o → org'.lookup v = some o)
include hm

theorem oSolv_mono (v s : Nat) (h : oSolv org v = some s) : oSolv org' v = some s :=
  oSolv_eq_some.mpr (hm _ _ (oSolv_eq_some.mp h))

theorem oParentDeps_mono (U : Universe) (P : Problem) (p : Nat) (d : List Req × List Nat)
    (h : oParentDeps U P org p = some d) : oParentDeps U P org' p = some d := by
  unfold oParentDeps at *
  cases hl : org.lookup p with
  | none => rw [hl] at h; cases h
  | some x => rw [hm p x hl]; rw [hl] at h; exact h

theorem kindTrue_mono (U : Universe) (P : Problem) (k : Kind) (hk : KindTrue U P org k) : KindTrue U P org' k := by
  have hS := oSolv_mono hm
  have hD := oParentDeps_mono hm U P
  cases k with
  | root | learnt => trivial
  | requires p r =>
    obtain ⟨reqs, cons, h1, h2⟩ := hk
    exact ⟨reqs, cons, hD p _ h1, h2⟩
  | constrains p c vs =>
    obtain ⟨⟨reqs, cons, h1, h2⟩, t, h3, h4⟩ := hk
    exact ⟨⟨reqs, cons, hD p _ h1, h2⟩, t, hS c t h3, h4⟩
  | forbid a hh pos n =>
    obtain ⟨sv, h1, h2⟩ := hk
    exact ⟨sv, hS a sv h1, h2⟩
  | lock l o =>
    obtain ⟨ls, os, p, h1, h2, h3, h4, h5⟩ := hk
    exact ⟨ls, os, p, hS l ls h1, hS o os h2, h3, h4, h5⟩
  | excluded v reason =>
    obtain ⟨sv, h1, h2⟩ := hk
    exact ⟨sv, hS v sv h1, h2⟩

theorem prov_mono (U : Universe) (P : Problem) (cl : ACl) (h : Prov U P org cl) : Prov U P org' cl := by
  have hS := oSolv_mono hm
  have hD := oParentDeps_mono hm U P
  obtain ⟨k, lits⟩ := cl
  cases k with
  | root | learnt => exact h
  | requires p r =>
    obtain ⟨reqs, cons, vars, h1, h2, h3, h4, h5, h6⟩ := h
    have hv : ∀ w ∈ vars, oSolv org' w = oSolv org w := fun w hw => by
      obtain ⟨s, hs⟩ := Option.isSome_iff_exists.mp (h3 w hw)
      rw [hs, hS w s hs]
    have hfm := filterMap_congr hv
    exact ⟨reqs, cons, vars, hD p _ h1, h2, fun w hw => hv w hw ▸ h3 w hw, hfm ▸ h4, hfm ▸ h5, h6⟩
  | constrains p c vs =>
    obtain ⟨reqs, cons, t, h1, h2, h3, h4, h5⟩ := h
    exact ⟨reqs, cons, t, hD p _ h1, h2, hS c t h3, h4, h5⟩
  | forbid a hh pos n =>
    obtain ⟨s, h1, h2, h3, h4⟩ := h
    exact ⟨s, hS a s h1, hm hh _ h2, h3, h4⟩
  | lock l oo =>
    obtain ⟨ls, os, p, h1, h2, h3, h4, h5, h6⟩ := h
    exact ⟨ls, os, p, hS l ls h1, hS oo os h2, h3, h4, h5, h6⟩
  | excluded vv reason =>
    obtain ⟨s, h1, h2, h3⟩ := h
    exact ⟨s, hS vv s h1, h2, h3⟩

end mono

end Resolvo.Abs
