import Resolvo.Abs.Preferred
import Resolvo.CacheProofs
/-!
# What a decision-guarded accepted history establishes for C08

Hypothesis (`BestHyp`): every root requirement is a single version set and some valid selection `sstar` of the hard
problem contains the first-ranked candidate of each. Then every history accepted by the decision-guarded abstract
system that ends in a valid solution ends in a solution containing all those first choices.

The trail (newest first) splits as `hi ++ lo`, where `hi` starts (at its old end) with the oldest decision on a
requirement of a solvable other than the root that is still on the trail, and `lo` is everything older. Invariant
(`BInv`, which asks for some split with the two properties that follow; the proof maintains this one): every decision in `lo` agrees with the assignment `sstar` induces — hence, by unit propagation over
clauses that `sstar` satisfies (all of them, learnt ones included), every entry of `lo` does — and, if `hi` is not
empty, every root requirement already has a true candidate in `lo` (the explicit-first guard). A decision on a root
requirement taken while `hi` is empty picks the first undecided candidate; the first choice cannot be false in `lo`,
so it is the first choice. A conflict below the direct requirements can only backjump into `lo` with an asserted
literal that `sstar` satisfies: the direct requirements are never downgraded.
-/
namespace Resolvo.Abs
open Resolvo Resolvo.Sat

/-- C08's hypothesis for the witness selection `sstar` -/
structure BestHyp (U : Universe) (P : Problem) (sstar : List Nat) : Prop where
  valid : Valid U P.hard sstar []
  single : ∀ r ∈ P.reqs, ∃ vs, r = .single vs
  first : ∀ r ∈ P.reqs, ∃ c, firstChoice U r = some c ∧ c ∈ sstar
  /-- provider contract: the candidates a version set can match carry the name of its package -/
  names : ∀ vs c, c ∈ U.candsOf vs → U.nameOf c = U.vsName vs

theorem reqCands_single (U : Universe) (vs : Nat) : U.reqCands (.single vs) = U.candsOf vs := by
  unfold Universe.reqCands Universe.reqVersionSets
  simp

theorem firstChoice_mem (U : Universe) (vs c : Nat) (h : firstChoice U (.single vs) = some c) : c ∈ U.candsOf vs :=
  reqCands_single U vs ▸ (mem_reqSorted U _ c).mp (List.mem_of_mem_head? h)

/-- single version sets whose candidates carry the package's name: a valid selection holds one candidate of each -/
theorem best_only (U : Universe) (P : Problem) (sstar : List Nat) (hb : BestHyp U P sstar) : FirstOnly U P.reqs sstar := by
  intro r hr
  obtain ⟨vs, rfl⟩ := hb.single r hr
  obtain ⟨c, hfc, hcs⟩ := hb.first _ hr
  refine ⟨c, hfc, fun d hd hds => ?_⟩
  rw [reqCands_single] at hd
  have hcm := firstChoice_mem U vs c hfc
  exact hb.valid.2.2.2 d hds c hcs ((hb.names vs d hd).trans (hb.names vs c hcm).symm)

/-- every root requirement has a candidate that is true in `lo` -/
def RootSat (P : Problem) (st : St) (lo : List Entry) : Prop :=
  ∀ r ∈ P.reqs, ∃ cl ∈ st.db, cl.kind = .requires 0 r ∧ ∃ w ∈ candVars cl, ∃ e ∈ lo, e.var = w ∧ e.val = true

theorem rootSat_of_guard (P : Problem) (st : St) (h : rootSatB P st = true) : RootSat P st st.trail := by
  intro r hr
  unfold rootSatB at h
  have h1 := List.all_eq_true.mp h r hr
  obtain ⟨cl, hcl, hc⟩ := List.any_eq_true.mp h1
  simp only [Bool.and_eq_true, beq_iff_eq] at hc
  obtain ⟨w, hw, hv⟩ := List.any_eq_true.mp hc.2
  obtain ⟨e, he, hev, heb⟩ := valueOf_some st w true (by simpa using hv)
  exact ⟨cl, hcl, hc.1, w, hw, e, he, hev, heb⟩

def BInv (a : Nat → Bool) (P : Problem) (st : St) : Prop :=
  ∃ hi lo, st.trail = hi ++ lo ∧ DecAgree a lo ∧ (hi ≠ [] → RootSat P st lo)

theorem trailOK_suffix (db : List ACl) (hi lo : List Entry) (h : TrailOK db (hi ++ lo)) : TrailOK db lo := by
  induction hi with
  | nil => exact h
  | cons e rest ih => exact ih h.1

theorem rootSat_mono {P : Problem} {st st' : St} {lo : List Entry} (h : RootSat P st lo) (hdb : ∀ cl ∈ st.db, cl ∈ st'.db) :
    RootSat P st' lo := by
  intro r hr
  obtain ⟨cl, hcl, hk, w, hw, e, he, hev, heb⟩ := h r hr
  exact ⟨cl, hdb cl hcl, hk, w, hw, e, he, hev, heb⟩

/-- `decision_agrees` for a requirement of the root -/
theorem root_decision_agrees {U : Universe} {P : Problem} {st : St} (hs : SInv U P st) {cl : ACl} {r : Req}
    (hcl : cl ∈ st.db) (hk : cl.kind = .requires 0 r) {a : Nat → Bool} {sstar : List Nat} (hr : Reads a st sstar)
    (hagree : ∀ e ∈ st.trail, a e.var = e.val) {v : Nat}
    (hbefore : ∀ w ∈ (candVars cl).takeWhile (fun w => w != v), st.valueOf w = some false)
    (horder : (candVars cl).filterMap st.solvOf = reqSorted U r) (hb : FirstOnly U P.reqs sstar) : a v = true := by
  refine decision_agrees hs hcl hk hr hagree hr.root hbefore horder hb ?_
  rcases hs.requires_parent hcl hk with ⟨_, h⟩ | ⟨s, hos, _⟩
  · exact h
  · rw [oSolv_eq_some, hs.rootOrigin] at hos; cases hos

theorem binv_of_trail_nil {a : Nat → Bool} {P : Problem} {st : St} (h : st.trail = []) : BInv a P st :=
  ⟨[], [], h, decAgree_nil, fun h => absurd rfl h⟩

/-- a new entry goes on top of `hi`, or on top of `lo` while `hi` is empty: then it has to agree with `a` -/
theorem binv_push {a : Nat → Bool} {P : Problem} {st : St} {hi lo : List Entry} (e : Entry)
    (htr : st.trail = hi ++ lo) (hda : DecAgree a lo) (hrs : hi ≠ [] → RootSat P st lo)
    (he : hi = [] → e.decision = true → a e.var = e.val) : BInv a P { st with trail := e :: st.trail } := by
  cases hi with
  | nil => exact ⟨[], e :: lo, by simp [htr], List.forall_mem_cons.mpr ⟨he rfl, hda⟩, fun h => absurd rfl h⟩
  | cons e' hi'' => exact ⟨e :: e' :: hi'', lo, by simp [htr], hda, fun _ => hrs (by simp)⟩

theorem stepD_binv_of_firstOnly (U : Universe) (P : Problem) (hsoft : P.soft = []) (sstar : List Nat)
    (hb : FirstOnly U P.reqs sstar) (st st' : St) (ev : Event) (hl : LInv st) (hs : SInv U P st) (a : Nat → Bool)
    (hr : Reads a st sstar) (hi : BInv a P st)
    (hstep : stepD U P st ev = some st') : BInv a P st' := by
  obtain ⟨hroot, hsolv, hsat⟩ := hr
  obtain ⟨hi', lo, htr, hda, hrs⟩ := hi
  cases step_sound (stepD_step hstep) with
  | clause id k cands cl pend hm =>
    exact ⟨hi', lo, htr, hda, fun hne => rootSat_mono (hrs hne) fun c hc => List.mem_append_left _ hc⟩
  | clear => exact binv_of_trail_nil rfl
  | undo e rest htr' =>
    rw [htr'] at htr
    cases hi' with
    | nil =>
      obtain rfl : e :: rest = lo := htr
      exact ⟨[], rest, rfl, fun x hx => hda x (List.mem_cons_of_mem _ hx), fun h => absurd rfl h⟩
    | cons e' hi'' => exact ⟨hi'', lo, (List.cons.inj htr).2, hda, fun _ => hrs (by simp)⟩
  | propagate => exact binv_push _ htr hda hrs fun _ h => nomatch h
  | decide v val level reason hlev =>
    have hd := stepD_guard hstep hlev
    by_cases hne : hi' = []
    · -- the whole trail agrees with `a`
      subst hne
      have hall : ∀ e ∈ st.trail, a e.var = e.val := htr ▸ TrailOK.all _ _ (htr ▸ hl.trailOK) a hsat hda
      rcases decisionOK_spec hd with
        ⟨_, ⟨rfl, rfl⟩ | ⟨s, _, hs'⟩⟩ | ⟨cl, p, r, rfl, hcl, hk, hpv, hbefore, horder, rfl | hrsat⟩
      · exact binv_push _ htr hda hrs fun _ _ => hroot
      · rw [hsoft] at hs'; cases hs'
      · -- a decision on a requirement of the root
        exact binv_push _ htr hda hrs fun _ _ =>
          root_decision_agrees hs (List.mem_of_getElem? hcl) hk ⟨hroot, hsolv, hsat⟩ hall hbefore horder hb
      · -- the first decision on another solvable's requirement: every root requirement is satisfied below it
        exact ⟨[⟨v, true, level, reason, true⟩], lo, by simp [htr], hda, fun _ => htr ▸ rootSat_of_guard P st hrsat⟩
    · exact binv_push _ htr hda hrs fun h => absurd h hne
  | _ => exact ⟨hi', lo, htr, hda, hrs⟩

theorem stepD_binv (U : Universe) (P : Problem) (hsoft : P.soft = []) (sstar : List Nat)
    (hb : BestHyp U P sstar) (st st' : St) (ev : Event) (hl : LInv st) (hs : SInv U P st) (a : Nat → Bool)
    (hroot : a 0 = true) (hsolv : ∀ v s, oSolv st.origins v = some s → a v = sstar.contains s)
    (hsat : SatDb a st.db) (hi : BInv a P st)
    (hstep : stepD U P st ev = some st') : BInv a P st' :=
  stepD_binv_of_firstOnly U P hsoft sstar (best_only U P sstar hb) st st' ev hl hs a ⟨hroot, hsolv, hsat⟩ hi hstep

/-- C08 in its natural generality: `sstar` is any valid selection of the hard problem that holds, of the candidates
    of each root requirement, the first choice only (`BestHyp` is the case of single version sets; unions are allowed
    here). A history accepted by the decision-guarded abstract system that ends with a valid solution ends with a
    solution containing the first choice of every root requirement. -/
theorem best_direct_of_firstOnly (U : Universe) (P : Problem) (hsoft : P.soft = []) (sstar : List Nat)
    (hv : Valid U P.hard sstar []) (hb : FirstOnly U P.reqs sstar)
    (evs : List Event) (st : St) (hrun : runOptD U P evs = some st) (sol : List Nat) (hsol : sol = st.trueSolvables)
    (hvalid : Valid U P sol []) : ∀ r ∈ P.reqs, ∀ c, firstChoice U r = some c → c ∈ sol := by
  obtain ⟨hl, hsi, hJ⟩ := runOptD_models sstar (fun a st => BInv a P st)
    (fun _ => binv_of_trail_nil rfl)
    (fun st st' ev a hl hs hr hi hst => stepD_binv_of_firstOnly U P hsoft sstar hb st st' ev hl hs a hr hi hst) hrun
  have hrd := reads_mu hl hsi hv
  obtain ⟨hi, lo, htr, hda, hrs⟩ := hJ _ hrd
  have hall : ∀ e ∈ lo, mu st sstar e.var = e.val :=
    TrailOK.all _ _ (trailOK_suffix st.db hi lo (htr ▸ hl.trailOK)) _ hrd.sat hda
  intro r hr c hfc
  obtain ⟨c', hfc', honly⟩ := hb r hr
  obtain rfl := Option.some.inj (hfc.symm.trans hfc')
  -- some candidate of `r` is true in `lo`: it is in `sstar`, hence the first choice
  obtain ⟨e, he, hv, d, hdc, hse⟩ : ∃ e ∈ lo, e.val = true ∧ ∃ d ∈ U.reqCands r, st.solvOf e.var = some d := by
    cases hi with
    | nil =>
      obtain ⟨d, hdc, hds⟩ := hvalid.1.1 r hr
      obtain ⟨e, he, hv, hse⟩ := (mem_trueSolvables st d).mp (hsol ▸ hds)
      exact ⟨e, (List.nil_append lo ▸ htr) ▸ he, hv, d, hdc, hse⟩
    | cons e0 hi' =>
      obtain ⟨cl, hcl, hk, w, hw, e, he, rfl, heb⟩ := hrs (by simp) r hr
      obtain ⟨sw, hsw, hswc⟩ := (hsi.requires_cands hcl hk).2 _ hw
      exact ⟨e, he, heb, sw, hswc, hsw⟩
  obtain rfl := honly d hdc (hrd.mem hse ((hall e he).trans hv))
  rw [hsol]
  exact (mem_trueSolvables st d).mpr ⟨e, htr ▸ List.mem_append_right _ he, hv, hse⟩

/-- **C08 for decision-guarded accepted histories.** If every root requirement is a single version set and some valid
    selection contains the first-ranked candidate of each, a history accepted by the decision-guarded abstract system
    that ends with a valid solution ends with a solution containing all those first-ranked candidates. -/
theorem best_direct (U : Universe) (P : Problem) (hsoft : P.soft = []) (sstar : List Nat) (hb : BestHyp U P sstar)
    (evs : List Event) (st : St) (hrun : runOptD U P evs = some st) (sol : List Nat) (hsol : sol = st.trueSolvables)
    (hvalid : Valid U P sol []) : ∀ r ∈ P.reqs, ∀ c, firstChoice U r = some c → c ∈ sol :=
  best_direct_of_firstOnly U P hsoft sstar hb.valid (best_only U P sstar hb) evs st hrun sol hsol hvalid

end Resolvo.Abs
