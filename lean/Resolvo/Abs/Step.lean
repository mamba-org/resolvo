import Resolvo.Abs.Check
import Resolvo.Basics
/-!
# The moves of the abstract system

`Step U P st ev st'` lists, move by move, what `step` accepts: the state it leaves and those of the facts it has
checked that the invariants below need (`step` checks more: that a new variable is not the root, that an assigned
variable was unassigned, that a propagation happens at the current level, that clause ids are consecutive). Every invariant of accepted histories is proved by cases on this relation, and lifted to whole histories by
`foldlM_inv`; `step` itself is unfolded only here.
-/
namespace Resolvo.Abs
open Resolvo Resolvo.Sat

inductive Step (U : Universe) (P : Problem) (st : St) : Event → St → Prop
  | note : Step U P st .note st
  | pend idx lits why : Step U P st (.learntLits idx lits why) { st with pending := some (idx, lits, why) }
  | var v o : st.origins.lookup v = none →
      (∀ w s, st.origins.lookup w = some (.solvable s) → o ≠ .solvable s) →
      Step U P st (.var v o) { st with origins := (v, o) :: st.origins }
  | clause id k cands cl pend : mkClause U P st k cands = some cl →
      Step U P st (.clause id k cands) { st with db := st.db ++ [cl], pending := pend }
  | decide v val level reason : level = st.topLevel + 1 →
      Step U P st (.assign v val level reason) { st with trail := ⟨v, val, level, reason, true⟩ :: st.trail }
  | propagate v val level reason cl : st.db[reason]? = some cl →
      (∀ l ∈ cl.lits, l = (v, val) ∨ st.litFalse l = true) →
      Step U P st (.assign v val level reason) { st with trail := ⟨v, val, level, reason, false⟩ :: st.trail }
  | undo e rest : st.trail = e :: rest → Step U P st (.undo e.var) { st with trail := rest }
  | clear : Step U P st .clear { st with trail := [] }
  | fail c cl : st.db[c]? = some cl → (∀ l ∈ cl.lits, st.litFalse l = true) →
      (∀ e ∈ st.trail, e.decision = true → e.var = 0 ∧ e.val = true) →
      Step U P st (.unsolvable c) { st with failed := some c }

theorem step_sound {U : Universe} {P : Problem} {st st' : St} {ev : Event}
    (h : step U P st ev = some st') : Step U P st ev st' := by
  cases ev with
  | note => cases h; exact .note
  | learntLits idx lits why => cases h; exact .pend idx lits why
  | clear => cases h; exact .clear
  | var v o =>
    obtain ⟨hnone, h⟩ := Option.ite_none_left_eq_some.mp h
    have hfresh : st.origins.lookup v = none := Option.not_isSome_iff_eq_none.mp hnone
    cases o with
    | root => cases h
    | forbid n => cases h; exact .var v _ hfresh fun _ _ _ e => nomatch e
    | solvable s =>
      obtain ⟨hany, h⟩ := Option.ite_none_left_eq_some.mp h
      cases h
      refine .var v _ hfresh fun w s' hw e =>
        hany (List.any_eq_true.mpr ⟨_, mem_of_lookup _ _ _ hw, ?_⟩)
      simpa using e.symm
  | clause id k cands =>
    obtain ⟨_, h⟩ := Option.ite_none_left_eq_some.mp h
    cases hm : mkClause U P st k cands with
    | none => rw [hm] at h; cases h
    | some cl => rw [hm] at h; cases h; exact .clause id k cands cl _ hm
  | assign v val level reason =>
    obtain ⟨_, h⟩ := Option.ite_none_left_eq_some.mp h
    by_cases hlev : (level == st.topLevel + 1) = true
    · rw [if_pos hlev] at h; cases h; exact .decide v val level reason (beq_iff_eq.mp hlev)
    · rw [if_neg hlev] at h
      obtain ⟨_, h⟩ := Option.ite_none_right_eq_some.mp h
      cases hcl : st.db[reason]? with
      | none => rw [hcl] at h; cases h
      | some cl =>
        rw [hcl] at h
        obtain ⟨hc, h⟩ := Option.ite_none_right_eq_some.mp h
        cases h
        simp only [Bool.and_eq_true, List.all_eq_true, Bool.or_eq_true, beq_iff_eq] at hc
        exact .propagate v val level reason cl hcl hc.2
  | undo v =>
    cases htr : st.trail with
    | nil => simp only [step, htr] at h; cases h
    | cons e rest =>
      simp only [step, htr] at h
      obtain ⟨hv, h⟩ := Option.ite_none_right_eq_some.mp h
      cases h
      rw [← beq_iff_eq.mp hv]
      exact .undo e rest htr
  | unsolvable c =>
    cases hcl : st.db[c]? with
    | none => simp only [step, hcl] at h; cases h
    | some cl =>
      simp only [step, hcl] at h
      obtain ⟨hc, h⟩ := Option.ite_none_right_eq_some.mp h
      cases h
      simp only [Bool.and_eq_true, List.all_eq_true, Bool.or_eq_true, Bool.not_eq_true', beq_iff_eq] at hc
      refine .fail c cl hcl hc.1.1 fun e he hd => (hc.1.2 e he).resolve_left fun h1 => ?_
      rw [hd] at h1; cases h1

end Resolvo.Abs
