import Resolvo.Abs.Decide
import Resolvo.Abs.Fail
import Resolvo.Oracles
import Resolvo.SpecProofs
import Resolvo.Basics
/-!
# What a decision-guarded accepted history establishes for C07

If the closure of first choices `pref` is a valid selection in which every requirement is met only
by its own first choice (`preferredConsistent U P = some pref`), then along every history accepted
by the decision-guarded abstract system (`runOptD`) every assignment on the trail agrees with the
assignment `pref` induces: propagation can only derive what every model of the clause database
satisfies, and a decision picks the first undecided candidate of a requirement of a selected
solvable — which is the requirement's first choice, because an earlier candidate can only have
been made false if the model makes it false. Hence no solvable outside `pref` is ever installed,
and a valid solution inside `pref` is all of it.
-/
namespace Resolvo.Abs
open Resolvo Resolvo.Sat

theorem stepD_step {U : Universe} {P : Problem} {st st' : St} {ev : Event}
    (h : stepD U P st ev = some st') : step U P st ev = some st' := by
  cases ev with
  | assign v val level reason => exact (Option.ite_none_left_eq_some.mp h).2
  | _ => exact h

theorem stepD_guard {U : Universe} {P : Problem} {st st' : St} {v : Nat} {val : Bool} {level reason : Nat}
    (h : stepD U P st (.assign v val level reason) = some st') (hl : level = st.topLevel + 1) :
    decisionOK U P st v val reason = true := by
  simpa [hl] using (Option.ite_none_left_eq_some.mp h).1

/-- what the decision guard has checked: the installation of the root or a soft requirement, or the first undecided
    candidate of a requires clause whose parent is true -/
theorem decisionOK_spec {U : Universe} {P : Problem} {st : St} {v : Nat} {val : Bool} {reason : Nat}
    (h : decisionOK U P st v val reason = true) :
    (reason = 0 ∧ ((v = 0 ∧ val = true) ∨ ∃ s, st.solvOf v = some s ∧ s ∈ P.soft)) ∨
    ∃ cl p r, val = true ∧ st.db[reason]? = some cl ∧ cl.kind = .requires p r ∧ st.valueOf p = some true ∧
      (∀ w ∈ (candVars cl).takeWhile (fun w => w != v), st.valueOf w = some false) ∧
      (candVars cl).filterMap st.solvOf = reqSorted U r ∧ (p = 0 ∨ rootSatB P st = true) := by
  unfold decisionOK at h
  split at h
  · next h0 =>
    refine .inl ⟨beq_iff_eq.mp h0, ?_⟩
    simp only [Bool.or_eq_true, Bool.and_eq_true, beq_iff_eq] at h
    rcases h with ⟨⟨hv, hval⟩, _⟩ | hc
    · exact .inl ⟨hv, hval⟩
    · split at hc
      · next s hs => exact .inr ⟨s, hs, List.contains_iff_mem.mp hc⟩
      · cases hc
  · simp only [Bool.and_eq_true] at h
    split at h
    · next cl hcl =>
      split at h
      · next p r hk =>
        simp only [Bool.and_eq_true, Bool.or_eq_true, beq_iff_eq, List.all_eq_true] at h
        exact .inr ⟨cl, p, r, h.1, hcl, hk, h.2.1.1.1.1.1, h.2.1.1.2, h.2.1.2, h.2.2⟩
      · cases h.2
    · cases h.2

theorem runOptD_runOpt (U : Universe) (P : Problem) (evs : List Event) (st0 st : St)
    (h : evs.foldlM (stepD U P) st0 = some st) : evs.foldlM (step U P) st0 = some st := by
  induction evs generalizing st0 with
  | nil => exact h
  | cons ev evs ih =>
    rw [List.foldlM_cons] at h ⊢
    cases hs : stepD U P st0 ev with
    | none => rw [hs] at h; cases h
    | some st1 => rw [hs] at h; rw [stepD_step hs]; exact ih st1 h

/-- `a` makes the root true, reads the variable of a solvable as membership in `sel`, and satisfies the clauses -/
structure Reads (a : Nat → Bool) (st : St) (sel : List Nat) : Prop where
  root : a 0 = true
  solv : ∀ v s, oSolv st.origins v = some s → a v = sel.contains s
  sat : SatDb a st.db

theorem Reads.mem {a : Nat → Bool} {st : St} {sel : List Nat} (h : Reads a st sel) {v s : Nat}
    (hv : oSolv st.origins v = some s) (ha : a v = true) : s ∈ sel :=
  List.contains_iff_mem.mp ((h.solv v s hv).symm.trans ha)

theorem Step.reads {U : Universe} {P : Problem} {st st' : St} {ev : Event} (hs : Step U P st ev st')
    {a : Nat → Bool} {sel : List Nat} (h : Reads a st' sel) : Reads a st sel := by
  cases hs with
  | var v o hfresh => exact ⟨h.1, fun w s hw => h.2 w s (oSolv_mono (lookup_cons_stable _ v o hfresh) w s hw), h.3⟩
  | clause => exact ⟨h.1, h.2, fun c hc => h.3 c (List.mem_append_left _ hc)⟩
  | _ => exact ⟨h.1, h.2, h.3⟩

theorem reads_mu {U : Universe} {P : Problem} {st : St} (hl : LInv st) (hs : SInv U P st) {sel : List Nat}
    (hv : Valid U P.hard sel []) : Reads (mu st sel) st sel :=
  ⟨mu_root U P st hs sel, mu_solv st sel, mu_sat hl hs hv⟩

/-- What every guarded step preserves of the models of a state holds, at the end of an accepted history, of every
    model of the final state. (A model of a later state is one of every earlier state, so the property can be carried
    forward for all models at once and the final one — `mu` of the final state — need not be known beforehand.) -/
theorem runOptD_models {U : Universe} {P : Problem} (sel : List Nat) (J : (Nat → Bool) → St → Prop) (h0 : ∀ a, J a {})
    (hstep : ∀ st st' ev a, LInv st → SInv U P st → Reads a st sel → J a st → stepD U P st ev = some st' → J a st')
    {evs : List Event} {st : St} (hrun : runOptD U P evs = some st) :
    LInv st ∧ SInv U P st ∧ ∀ a, Reads a st sel → J a st := by
  refine foldlM_inv (fun st => LInv st ∧ SInv U P st ∧ ∀ a, Reads a st sel → J a st) ?_ evs {} st
    ⟨linv_init, sinv_init U P, fun a _ => h0 a⟩ hrun
  intro st ev st' ⟨hl, hs, hJ⟩ hst
  have hS := step_sound (stepD_step hst)
  exact ⟨hS.linv hl, hS.sinv hs, fun a hr => hstep st st' ev a hl hs (hS.reads hr) (hJ a (hS.reads hr)) hst⟩

/-- among the candidates of each of `reqs`, only the requirement's first choice is in `sel` -/
def FirstOnly (U : Universe) (reqs : List Req) (sel : List Nat) : Prop :=
  ∀ r ∈ reqs, ∃ c, firstChoice U r = some c ∧ ∀ d ∈ U.reqCands r, d ∈ sel → d = c

theorem mem_preferredReqs {U : Universe} {P : Problem} {sel : List Nat} {r : Req} :
    r ∈ preferredReqs U P sel ↔ r ∈ P.reqs ∨ ∃ s ∈ sel, r ∈ knownReqs U s := by
  simp only [preferredReqs, List.mem_append, List.mem_flatMap]

theorem knownReqs_known {U : Universe} {s : Nat} {reqs : List Req} {cons : List Nat}
    (h : U.deps s = .known reqs cons) : knownReqs U s = reqs := by
  unfold knownReqs; rw [h]

/-- the hypothesis of C07 for the selection `pref` -/
structure PrefHyp (U : Universe) (P : Problem) (pref : List Nat) : Prop where
  valid : Valid U P.hard pref []
  only : ∀ r ∈ preferredReqs U P pref, ∃ c, firstChoice U r = some c ∧ ∀ d ∈ U.reqCands r, d = c ∨ d ∉ pref

theorem PrefHyp.firstOnly {U : Universe} {P : Problem} {pref : List Nat} (hp : PrefHyp U P pref) :
    FirstOnly U (preferredReqs U P pref) pref := fun r hr =>
  let ⟨c, hfc, h⟩ := hp.only r hr
  ⟨c, hfc, fun d hd hdp => (h d hd).resolve_right (not_not_intro hdp)⟩

theorem prefHyp_of_consistent (U : Universe) (P : Problem) (pref : List Nat)
    (h : preferredConsistent U P = some pref) :
    PrefHyp U P pref ∧
    ∃ fuel, preferredClosure U P fuel = some pref := by
  unfold preferredConsistent at h
  simp only [] at h
  split at h
  · cases h
  · next pr hpc =>
    obtain ⟨hc, h⟩ := Option.ite_none_right_eq_some.mp h
    cases h
    simp only [Bool.and_eq_true, List.all_eq_true] at hc
    refine ⟨⟨(validB_iff _ _ _ _).mp hc.1, fun r hr => ?_⟩, _, hpc⟩
    have := hc.2 r hr
    cases hf : firstChoice U r with
    | none => rw [hf] at this; cases this
    | some c =>
      rw [hf] at this
      simp only [List.all_eq_true, Bool.or_eq_true, beq_iff_eq, Bool.not_eq_true', Bool.eq_false_iff, ne_eq,
        List.contains_iff_mem] at this
      exact ⟨c, rfl, this⟩

theorem candVars_eq (cl : ACl) (p : Nat) (vars : List Nat)
    (h : cl.lits = (p, false) :: vars.map (fun v => (v, true))) : candVars cl = vars := by
  unfold candVars
  rw [h]
  simp [List.map_map, Function.comp_def]

section requires
variable {U : Universe} {P : Problem} {st : St} (hs : SInv U P st) {cl : ACl} {p : Nat} {r : Req}
  (hcl : cl ∈ st.db) (hk : cl.kind = .requires p r)
include hs hcl hk

theorem SInv.requires_cands : cl.lits = (p, false) :: (candVars cl).map (fun v => (v, true)) ∧
    ∀ w ∈ candVars cl, ∃ s, oSolv st.origins w = some s ∧ s ∈ U.reqCands r := by
  have hprov := hs.prov cl hcl
  unfold Prov at hprov
  rw [hk] at hprov
  obtain ⟨_, _, vars, _, _, h3, _, h5, h6⟩ := hprov
  rw [candVars_eq cl p vars h6]
  refine ⟨h6, fun w hw => ?_⟩
  obtain ⟨s, hsw⟩ := Option.isSome_iff_exists.mp (h3 w hw)
  exact ⟨s, hsw, h5 s (List.mem_filterMap.mpr ⟨w, hw, hsw⟩)⟩

theorem SInv.requires_parent :
    (st.origins.lookup p = some .root ∧ r ∈ P.reqs) ∨ ∃ s, oSolv st.origins p = some s ∧ r ∈ knownReqs U s := by
  obtain ⟨reqs, cons, hpd, hr⟩ : KindTrue U P st.origins (.requires p r) := hk ▸ prov_kindTrue U P _ cl (hs.prov cl hcl)
  rcases oParentDeps_eq_some.mp hpd with ⟨h0, rfl, _⟩ | ⟨s, hos, hdep⟩
  · exact .inl ⟨h0, hr⟩
  · exact .inr ⟨s, hos, (knownReqs_known hdep).symm ▸ hr⟩

/-- The fact C07 and C08 share. The guard lets a requires clause decide on `v` only if every candidate before `v` is
    false. A model `a` that agrees with the trail, reads solvables as `sel` does and makes the parent true makes `v`
    true, provided `sel` holds of the requirement's candidates the first choice only. -/
theorem decision_agrees {a : Nat → Bool} {sel : List Nat} (hr : Reads a st sel)
    (hagree : ∀ e ∈ st.trail, a e.var = e.val) (hap : a p = true) {v : Nat}
    (hbefore : ∀ w ∈ (candVars cl).takeWhile (fun w => w != v), st.valueOf w = some false)
    (horder : (candVars cl).filterMap st.solvOf = reqSorted U r)
    {R : List Req} (hfo : FirstOnly U R sel) (hR : r ∈ R) : a v = true := by
  obtain ⟨hlits, hcands⟩ := hs.requires_cands hcl hk
  -- `a` satisfies the clause: some candidate variable `w` is true under `a`
  obtain ⟨l, hl, hlv⟩ := List.any_eq_true.mp (hr.sat cl hcl)
  rw [hlits] at hl
  obtain ⟨w, hwmem, haw⟩ : ∃ w ∈ candVars cl, a w = true := by
    rcases List.mem_cons.mp hl with rfl | h
    · simp [evalLit, hap] at hlv
    · obtain ⟨w, hw, rfl⟩ := List.mem_map.mp h
      exact ⟨w, hw, by simpa [evalLit] using hlv⟩
  -- its solvable is in `sel` and a candidate of `r`, hence the first choice
  obtain ⟨sw, hsw, hswc⟩ := hcands w hwmem
  obtain ⟨c, hfc, honly⟩ := hfo r hR
  obtain rfl := honly sw hswc (hr.mem hsw haw)
  -- which the first candidate variable of the clause stands for
  obtain ⟨w0, l', hvars, hw0⟩ := filterMap_head _ (candVars cl) sw
    (fun x hx => let ⟨s, h, _⟩ := hcands x hx; ⟨s, h⟩) (horder ▸ hfc)
  obtain rfl := hs.oSolv_inj hsw hw0
  -- `v` is that variable: otherwise it is false on the trail, hence under `a`
  by_cases hvw : w = v
  · rw [← hvw, haw]
  · have hf := hbefore w (by simp [hvars, hvw])
    rw [agrees_valueOf hagree hf] at haw
    cases haw

end requires

def DecAgree (a : Nat → Bool) (trail : List Entry) : Prop :=
  ∀ e ∈ trail, e.decision = true → a e.var = e.val

theorem decAgree_nil {a : Nat → Bool} : DecAgree a [] := fun _ h => nomatch h

theorem stepD_decAgree (U : Universe) (P : Problem) (hsoft : P.soft = []) (pref : List Nat)
    (hp : PrefHyp U P pref) (st st' : St) (ev : Event) (hl : LInv st) (hs : SInv U P st) (a : Nat → Bool)
    (hr : Reads a st pref) (hda : DecAgree a st.trail)
    (hstep : stepD U P st ev = some st') : DecAgree a st'.trail := by
  cases step_sound (stepD_step hstep) with
  | decide v val level reason hlev =>
    have hall := TrailOK.all _ _ hl.trailOK a hr.sat hda
    refine List.forall_mem_cons.mpr ⟨fun _ => ?_, hda⟩
    rcases decisionOK_spec (stepD_guard hstep hlev) with
      ⟨_, ⟨rfl, rfl⟩ | ⟨s, _, hs'⟩⟩ | ⟨cl, p, r, rfl, hcl, hk, hpv, hbefore, horder, _⟩
    · exact hr.root
    · rw [hsoft] at hs'; cases hs'
    · have hclm := List.mem_of_getElem? hcl
      have hap := agrees_valueOf hall hpv
      -- the parent is the root or a solvable that `a` selects
      refine decision_agrees hs hclm hk hr hall hap hbefore horder hp.firstOnly (mem_preferredReqs.mpr ?_)
      exact (hs.requires_parent hclm hk).imp And.right fun ⟨s, hos, h⟩ => ⟨s, hr.mem hos hap, h⟩
  | propagate => exact List.forall_mem_cons.mpr ⟨nofun, hda⟩
  | undo e rest htr => exact fun e' he' => hda e' (htr ▸ List.mem_cons_of_mem _ he')
  | clear => exact decAgree_nil
  | _ => exact hda

/-- Along a decision-guarded accepted history every assignment on the trail agrees with the assignment the
    preferred selection induces. -/
theorem accepted_all_agree (U : Universe) (P : Problem) (hsoft : P.soft = []) (pref : List Nat)
    (hp : PrefHyp U P pref) (evs : List Event) (st : St) (hrun : runOptD U P evs = some st) :
    ∀ e ∈ st.trail, mu st pref e.var = e.val := by
  obtain ⟨hl, hsi, hJ⟩ := runOptD_models pref (fun a st => DecAgree a st.trail) (fun _ => decAgree_nil)
    (fun st st' ev a hl hs hr hda hst => stepD_decAgree U P hsoft pref hp st st' ev hl hs a hr hda hst) hrun
  have hr := reads_mu hl hsi hp.valid
  exact TrailOK.all _ _ hl.trailOK _ hr.sat (hJ _ hr)

/-- **Every solvable a decision-guarded accepted history has installed is a preferred one.** -/
theorem accepted_entry_in_pref (U : Universe) (P : Problem) (hsoft : P.soft = []) (pref : List Nat)
    (hp : PrefHyp U P pref) (evs : List Event) (st : St) (hrun : runOptD U P evs = some st)
    (e : Entry) (he : e ∈ st.trail) (hv : e.val = true) (s : Nat) (hs : st.solvOf e.var = some s) : s ∈ pref := by
  have := accepted_all_agree U P hsoft pref hp evs st hrun e he
  rw [hv, mu_solv st pref e.var s hs] at this
  exact List.contains_iff_mem.mp this

theorem mem_trueSolvables (st : St) (s : Nat) :
    s ∈ st.trueSolvables ↔ ∃ e ∈ st.trail, e.val = true ∧ st.solvOf e.var = some s := by
  simp only [St.trueSolvables, List.mem_filterMap, List.mem_filter, List.mem_reverse, and_assoc]

theorem go_subset_sel (U : Universe) (sel : List Nat)
    (hsel : ∀ s ∈ sel, ∀ r ∈ knownReqs U s, ∀ c, firstChoice U r = some c → c ∈ sel)
    (fuel : Nat) (todo : List Req) (acc res : List Nat)
    (h : preferredClosure.go U fuel todo acc = some res) (hacc : ∀ c ∈ acc, c ∈ sel)
    (htodo : ∀ r ∈ todo, ∀ c, firstChoice U r = some c → c ∈ sel) : ∀ c ∈ res, c ∈ sel := by
  induction fuel generalizing todo acc with
  | zero =>
    cases todo with
    | nil => cases h; exact hacc
    | cons r rest => cases h
  | succ fuel ih =>
    cases todo with
    | nil => cases h; exact hacc
    | cons r rest =>
      have hrest : ∀ r' ∈ rest, ∀ c, firstChoice U r' = some c → c ∈ sel :=
        fun r' hr' => htodo r' (List.mem_cons_of_mem _ hr')
      rw [preferredClosure.go] at h
      cases hfc : firstChoice U r with
      | none => simp only [hfc] at h; cases h
      | some c =>
        have hc := htodo r List.mem_cons_self c hfc
        simp only [hfc] at h
        by_cases hin : acc.contains c = true
        · rw [if_pos hin] at h; exact ih rest acc h hacc hrest
        · rw [if_neg hin] at h
          cases hd : U.deps c with
          | unknown x => simp only [hd] at h; cases h
          | known reqs cons =>
            simp only [hd] at h
            refine ih _ _ h (fun x hx => ?_) fun r' hr' => ?_
            · rcases List.mem_append.mp hx with h1 | h1
              · exact hacc x h1
              · rw [List.mem_singleton.mp h1]; exact hc
            · rcases List.mem_append.mp hr' with h1 | h1
              · exact hrest r' h1
              · exact hsel c hc r' (knownReqs_known hd ▸ h1)

/-- the closure of first choices lies in every selection that holds the first choice of each requirement of the root
    and of its own members -/
theorem preferredClosure_least {U : Universe} {P : Problem} {fuel : Nat} {res : List Nat}
    (h : preferredClosure U P fuel = some res) (sel : List Nat)
    (hsel : ∀ r ∈ preferredReqs U P sel, ∀ c, firstChoice U r = some c → c ∈ sel) : ∀ c ∈ res, c ∈ sel :=
  go_subset_sel U sel (fun s hs r hr => hsel r (mem_preferredReqs.mpr (.inr ⟨s, hs, hr⟩))) fuel P.reqs [] res h
    (fun _ hc => nomatch hc) fun r hr => hsel r (mem_preferredReqs.mpr (.inl hr))

/-- a valid selection inside one that holds first choices only holds the first choice of each requirement of the root
    and of its own members: the candidate that meets the requirement is in the larger selection too -/
theorem valid_sub_firstOnly {U : Universe} {P : Problem} {sol pref ex : List Nat} (hvalid : Valid U P sol ex)
    (hsub : ∀ s ∈ sol, s ∈ pref) (hfo : FirstOnly U (preferredReqs U P pref) pref) :
    ∀ r ∈ preferredReqs U P sol, ∀ c, firstChoice U r = some c → c ∈ sol := by
  intro r hr c hfc
  have hr' := mem_preferredReqs.mp hr
  obtain ⟨d, hdc, hds⟩ : ∃ d ∈ U.reqCands r, d ∈ sol := by
    rcases hr' with h | ⟨s, hs, h⟩
    · exact hvalid.1.1 r h
    · obtain ⟨_, _, hd, hm⟩ := hvalid.2.1 s hs
      exact hm.1 r (knownReqs_known hd ▸ h)
  obtain ⟨c', hfc', honly⟩ := hfo r (mem_preferredReqs.mpr (hr'.imp_right fun ⟨s, hs, h⟩ => ⟨s, hsub s hs, h⟩))
  obtain rfl := Option.some.inj (hfc.symm.trans hfc')
  exact honly d hdc (hsub d hds) ▸ hds

/-- **C07 for decision-guarded accepted histories.** If the first choices are mutually compatible (`pref`), a
    history accepted by the decision-guarded abstract system that ends with a valid solution ends with exactly
    `pref`. -/
theorem preferred_exact (U : Universe) (P : Problem) (hsoft : P.soft = []) (pref : List Nat)
    (hpc : preferredConsistent U P = some pref) (evs : List Event) (st : St)
    (hrun : runOptD U P evs = some st) (sol : List Nat) (hsol : sol = st.trueSolvables)
    (hvalid : Valid U P sol []) : ∀ s, s ∈ sol ↔ s ∈ pref := by
  obtain ⟨hp, fuel, hclo⟩ := prefHyp_of_consistent U P pref hpc
  have hsub : ∀ s ∈ sol, s ∈ pref := fun s hs => by
    obtain ⟨e, he, hv, hse⟩ := (mem_trueSolvables st s).mp (hsol ▸ hs)
    exact accepted_entry_in_pref U P hsoft pref hp evs st hrun e he hv s hse
  exact fun s => ⟨hsub s, preferredClosure_least hclo sol (valid_sub_firstOnly hvalid hsub hp.firstOnly) s⟩

end Resolvo.Abs
