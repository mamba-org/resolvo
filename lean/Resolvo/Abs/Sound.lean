import Resolvo.Abs.Logic
/-!
# Soundness of the abstract system, semantic part

Every non-learnt clause an accepted history adds states a true fact of the provider universe
(`Prov`): the invariant `SInv` and its preservation by every move. `Abs/Fail.lean` draws the consequence: every
valid selection of the hard problem induces an assignment (`mu`) satisfying all of them, so — with `Logic.lean` —
an accepted history that records a failure proves that the hard problem has no solution (`fail_sound`).
-/
namespace Resolvo.Abs
open Resolvo Resolvo.Sat

structure SInv (U : Universe) (P : Problem) (st : St) : Prop where
  rootOrigin : st.origins.lookup 0 = some .root
  solvInj : ∀ v v' s, st.origins.lookup v = some (.solvable s) → st.origins.lookup v' = some (.solvable s) → v = v'
  prov : ∀ cl ∈ st.db, Prov U P st.origins cl
  consistent : ∀ cl1 ∈ st.db, ∀ cl2 ∈ st.db, ∀ a h p1 p2 n1 n2,
    cl1.kind = .forbid a h p1 n1 → cl2.kind = .forbid a h p2 n2 → p1 = p2

theorem sinv_init (U : Universe) (P : Problem) : SInv U P ({} : St) := by
  refine ⟨rfl, ?_, ?_, ?_⟩
  · intro v v' s h
    simp only [List.lookup_cons, List.lookup_nil] at h
    split at h <;> simp at h
  · intro cl h; cases h
  · intro cl h; cases h

theorem SInv.oSolv_inj {U : Universe} {P : Problem} {st : St} (hi : SInv U P st) {v v' s : Nat}
    (h : oSolv st.origins v = some s) (h' : oSolv st.origins v' = some s) : v = v' :=
  hi.solvInj v v' s (oSolv_eq_some.mp h) (oSolv_eq_some.mp h')

theorem Step.sinv {U : Universe} {P : Problem} {st st' : St} {ev : Event}
    (hs : Step U P st ev st') (hi : SInv U P st) : SInv U P st' := by
  cases hs with
  | var v o hfresh hnew =>
    have hm := lookup_cons_stable st.origins v o hfresh
    refine ⟨hm 0 _ hi.1, fun w w' s hw hw' => ?_, fun cl hcl => prov_mono hm U P cl (hi.3 cl hcl), hi.4⟩
    rcases lookup_cons_some hw with ⟨rfl, e⟩ | h <;> rcases lookup_cons_some hw' with ⟨rfl, e'⟩ | h'
    · rfl
    · exact absurd e (hnew w' s h')
    · exact absurd e' (hnew w s h)
    · exact hi.2 w w' s h h'
  | clause id k cands cl pend hm =>
    obtain ⟨hk, hprov, hcons⟩ := mkClause_spec hm
    have hmem : ∀ c ∈ st.db ++ [cl], c ∈ st.db ∨ c = cl := fun c hc => by simpa using hc
    refine ⟨hi.1, hi.2, fun c hc => ?_, fun cl1 hm1 cl2 hm2 a h p1 p2 n1 n2 hk1 hk2 => ?_⟩
    · rcases hmem c hc with h | rfl
      · exact hi.3 c h
      · exact hprov
    · rcases hmem cl1 hm1 with g1 | rfl <;> rcases hmem cl2 hm2 with g2 | rfl
      · exact hi.4 cl1 g1 cl2 g2 a h p1 p2 n1 n2 hk1 hk2
      · rw [hk] at hk2; subst hk2
        exact hcons cl1 g1 p1 n1 hk1
      · rw [hk] at hk1; subst hk1
        exact (hcons cl2 g2 p2 n2 hk2).symm
      · rw [hk1] at hk2; cases hk2; rfl
  | _ => exact ⟨hi.1, hi.2, hi.3, hi.4⟩

theorem step_sinv (U : Universe) (P : Problem) (st st' : St) (ev : Event)
    (hi : SInv U P st) (hs : step U P st ev = some st') : SInv U P st' := (step_sound hs).sinv hi

end Resolvo.Abs
