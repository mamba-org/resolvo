import Resolvo.Graph
import Resolvo.Abs.Fail
import Resolvo.RenderTruth
import Resolvo.MDet.CheckedProofs
import Resolvo.MDet.ModelGraph
/-!
# C03 — a conflict report is a truthful, self-contained proof of unsatisfiability

Per run, on every Unsolvable answer of the implementation, the check evaluates on the
implementation's own `ConflictGraph` (public fields): `edgesTrueB` (each edge against the
provider's data, incl. "targets are exactly the requirement's candidates, or the unresolved node
if it has none"), `reachableB` (BFS recomputed) and `graphRefutes`; and on the clause ids the
`Conflict` blames (hook accessor): the blamed clauses alone refute the root and contain no learnt
clause. Proved here: `graphRefutes` is exact (verified DPLL), every learnt clause of an accepted
history is entailed by its recorded antecedents (so expanding `learnt_why` loses nothing), and
provenance: every non-learnt clause in an accepted history states a true fact (`Prov`).
-/
namespace Resolvo.C03
open Resolvo Resolvo.Graph Resolvo.Sat Resolvo.Abs

/-- (c) the refutation oracle is exact: it answers `true` iff no assignment satisfies the graph's reading -/
theorem refutes_exact (g : G) : graphRefutes g = true ↔ ¬ ∃ a, evalCnf a (cnfOfGraph g) = true :=
  graphRefutes_iff g

/-- a learnt clause accepted by the abstract system follows from the antecedents recorded for it
    (`learnt_why`): reporting the antecedents instead of the learnt clause is sound -/
theorem learnt_from_antecedents (why : Cnf) (learnt : Clause) (h : rup why learnt = true)
    (a : Nat → Bool) (hw : evalCnf a why = true) : evalClause a learnt = true :=
  rup_sound why learnt h a hw

/-- (a) every clause of an accepted history (the pool conflict clauses are drawn from) states a
    true fact of the provider's data -/
theorem clauses_truthful (U : Universe) (P : Problem) (history : List Event) (st : St)
    (hacc : runOpt U P history = some st) : ∀ cl ∈ st.db, Prov U P st.origins cl :=
  (runOpt_inv hacc).2.prov

/-- **(a) every edge is true** — for the exact model of `Conflict::graph` (`Render.buildGraph`: same nodes, edges and
    insertion order as the real graph; its edges and the message rendered from it are compared with the real ones on
    every generated conflict): whatever clauses of an accepted history are blamed, each edge of the graph built from
    them states a true fact of the provider's data — a requires edge's requirement belongs to its source and its target is
    one of that requirement's candidates (the unresolved node only if it has none); constrains, lock and exclusion edges
    point at solvables that really are non-matching, locked out or excluded; forbid edges join solvables of one package. -/
theorem edges_truthful (U : Universe) (P : Problem) (history : List Event) (st : St)
    (hacc : runOpt U P history = some st) (ids : List Nat) (hids : ∀ id ∈ ids, id < st.db.length) :
    ∀ x ∈ Render.nodeEdges (Render.buildGraph U st.origins (ids.map (fun id => (st.db.getD id default).kind))),
      Render.EdgeTrue U P x.1 x.2.1 x.2.2 :=
  Render.buildGraph_edges_true U P st (runOpt_inv hacc).2 ids hids

/-- **C03 for the checked model** (all universes / problems / solver states / fuel): an Unsolvable answer of the checked
    deterministic model of `Solver::solve` comes with a conflict graph — the exact model of `Conflict::graph` applied to the
    clauses the conflict blames — in which every edge states a true fact of the provider's data, every node is reachable
    from the root, and the facts shown in the graph alone (with one-solvable-per-package for forbid-joined nodes) admit no
    selection that installs the root. -/
theorem unsat_graph_checked (U : Universe) (P : Problem) (fuel : Nat) (s : MDet.S) (c : List Nat)
    (h : (MDet.solveChecked U P fuel s).1 = .unsat c) :
    ∃ st, runOpt U P (MDet.absEvents (MDet.solveRun U P fuel { s with trace := [] }).2.trace.reverse) = some st ∧
      (∀ x ∈ Render.nodeEdges (MDet.conflictGraphOf U st c), Render.EdgeTrue U P x.1 x.2.1 x.2.2) ∧
      reachableB (MDet.graphEdges (MDet.conflictGraphOf U st c)) (MDet.conflictGraphOf U st c).nodes.toList = true ∧
      ¬ ∃ a, evalCnf a (cnfOfGraph (MDet.graphEdges (MDet.conflictGraphOf U st c))) = true :=
  MDet.solveChecked_unsat_graph U P fuel s c h

/-- **(a) for the exact model itself, with no checker in between** (all universes that respect the provider contract
    `WFU` — listed candidates carry the package's name, locked and excluded solvables are candidates —, all problems, solver
    states carried over from earlier solves incl. cache, cancellation plan and asynchronous completion order, fuel, and all
    sets of blamed clauses): every edge of the conflict graph that the exact model of `Conflict::graph` builds from the
    clause arena and variable map of the exact model of `Solver::solve` states a true fact of the provider's data. The
    proof is an invariant of the model's encoder carried through every function of the model (`MDet/Truth.lean`,
    `MDet/TruthSpec.lean`): each `Clauses::alloc` site of the encoder is shown to state a fact the provider gave. -/
theorem edges_truthful_exact_model (U : Universe) (hU : MDet.WFU U) (P : Problem) (fuel : Nat) (s : MDet.S) (ids : List Nat) :
    ∀ x ∈ Render.nodeEdges (MDet.modelGraph U (MDet.solveRun U P fuel s).2 ids), Render.EdgeTrue U P x.1 x.2.1 x.2.2 :=
  MDet.modelGraph_edges_true U hU P fuel s ids

/-- the invariant behind it: after every solve, every clause in the model's arena states a true fact -/
theorem model_clauses_truthful (U : Universe) (hU : MDet.WFU U) (P : Problem) (fuel : Nat) (s : MDet.S) :
    ∀ c ∈ (MDet.solveRun U P fuel s).2.clauses.toList, KindTrue U P (MDet.solveRun U P fuel s).2.origins c.kind :=
  (MDet.solveRun_tinv U hU P fuel s).kinds

/-- the provider contract is decidable; the driver evaluates it on every generated universe -/
theorem provider_contract_decidable (U : Universe) (h : MDet.wfuB U = true) : MDet.WFU U := MDet.wfuB_sound U h

/-! Non-vacuity: the graph "root requires {s0}; s0 requires a package without candidates". -/
def exG : G := [⟨.root, .solv 0, .req (.single 0)⟩, ⟨.solv 0, .unresolved, .req (.single 1)⟩]
example : graphRefutes exG = true := by decide
example : graphRefutes [⟨.root, .solv 0, .req (.single 0)⟩] = false := by decide

end Resolvo.C03
