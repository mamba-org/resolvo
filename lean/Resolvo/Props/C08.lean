import Resolvo.Abs.BestDirect
import Resolvo.Oracles
import Resolvo.Enc.ReferenceProofs
import Resolvo.MDet.CheckedProofs
/-!
# C08 — direct requirements get their best candidate whenever that is possible

`bestDirectApplicable U P` decides the hypothesis ("all root requirements are single version sets
and some valid solution contains the first-ranked candidate of each simultaneously") with the
verified DPLL on the reference encoding extended by one unit clause per first choice.
Proved here: that extension is exact — the extended formula is satisfiable iff a valid selection
containing all the first choices exists — and **the property itself** for every solver history that the
decision-guarded abstract system accepts (`best_direct_accepted`; the argument is in `Abs/BestDirect.lean`) and
for the checked model (`best_direct_checked`).
-/
namespace Resolvo.C08
open Resolvo Resolvo.Sat

theorem evalCnf_units (a : Nat → Bool) (cs : List Nat) :
    evalCnf a (cs.map (fun c => [(c, true)])) = true ↔ ∀ c ∈ cs, a c = true := by
  simp [evalCnf, evalClause, evalLit, List.all_map, List.all_eq_true]

/-- satisfiability of the encoding plus units ⇔ a valid selection containing those solvables -/
theorem with_units_iff (U : Universe) (P : Problem) (hw : CandsKnown U) (fcs : List Nat)
    (hfc : ∀ c ∈ fcs, c ∈ U.allSolvs) :
    decideSat' (encodeAll U P.hard ++ fcs.map (fun c => [(c, true)])) = true ↔
      ∃ sel, Valid U P.hard sel [] ∧ ∀ c ∈ fcs, c ∈ sel := by
  rw [decideSat'_iff]
  constructor
  · rintro ⟨a, ha⟩
    rw [evalCnf_append, Bool.and_eq_true, evalCnf_units] at ha
    have hv := encodeAll_sel U P.hard hw a ha.1
    exact ⟨U.allSolvs.filter a, hv, fun c hc => List.mem_filter.mpr ⟨hfc c hc, ha.2 c hc⟩⟩
  · rintro ⟨sel, hv, hc⟩
    refine ⟨fun s => decide (s ∈ sel), ?_⟩
    rw [evalCnf_append, Bool.and_eq_true, evalCnf_units]
    exact ⟨encodeAll_of_valid U P.hard sel hv, fun c hcm => decide_eq_true (hc c hcm)⟩

/-! ## The property itself -/

/-- provider contract: a listed candidate carries its package's name -/
def CandNames (U : Universe) : Prop := ∀ n p, U.pkg? n = some p → ∀ c ∈ p.cands, U.nameOf c = n

def candNamesB (U : Universe) : Bool := U.pkgs.all (fun np => np.2.cands.all (fun c => U.nameOf c == np.1))

theorem candNamesB_sound (U : Universe) (h : candNamesB U = true) : CandNames U := by
  intro n p hp c hc
  unfold candNamesB at h
  have hmem : (n, p) ∈ U.pkgs := mem_of_lookup _ _ _ hp
  have := List.all_eq_true.mp (List.all_eq_true.mp h (n, p) hmem) c hc
  simpa using this

/-- the executable hypothesis yields a witness for `BestHyp` -/
theorem bestHyp_of_applicable (U : Universe) (P : Problem) (hw : CandsKnown U) (hn : CandNames U) (fcs : List Nat)
    (h : bestDirectApplicable U P = some fcs) :
    (∃ sstar, Abs.BestHyp U P sstar) ∧ ∀ c ∈ fcs, ∃ r ∈ P.reqs, firstChoice U r = some c := by
  unfold bestDirectApplicable at h
  obtain ⟨hall, h⟩ := Option.ite_none_right_eq_some.mp h
  obtain ⟨hc, h⟩ := Option.ite_none_right_eq_some.mp h
  cases h
  simp only [Bool.and_eq_true, beq_iff_eq] at hc
  have hsome := List.filterMap_length_eq_length.mp hc.1
  have hsingle : ∀ r ∈ P.reqs, ∃ vs, r = .single vs := by
    intro r hr
    have := List.all_eq_true.mp hall r hr
    cases r with
    | single vs => exact ⟨vs, rfl⟩
    | union u => cases this
  have hfcs : ∀ c ∈ P.reqs.filterMap (firstChoice U), c ∈ U.allSolvs := by
    intro c hcm
    obtain ⟨r, hr, hfc⟩ := List.mem_filterMap.mp hcm
    obtain ⟨vs, rfl⟩ := hsingle r hr
    obtain ⟨p, hp, hcp⟩ := candsOf_sub U vs c (Abs.firstChoice_mem U vs c hfc)
    exact hw _ p hp c hcp
  obtain ⟨sstar, hv, hsub⟩ := (with_units_iff U P hw _ hfcs).mp hc.2
  refine ⟨⟨sstar, hv, hsingle, ?_, ?_⟩, ?_⟩
  · intro r hr
    obtain ⟨c, hfc⟩ := Option.isSome_iff_exists.mp (hsome r hr)
    exact ⟨c, hfc, hsub c (List.mem_filterMap.mpr ⟨r, hr, hfc⟩)⟩
  · intro vs c hcm
    obtain ⟨p, hp, hcp⟩ := candsOf_sub U vs c hcm
    exact hn _ p hp c hcp
  · exact fun c hcm => List.mem_filterMap.mp hcm

/-- **C08 for every decision-guarded accepted history.** Whenever the hypothesis holds (decided exactly by
    `bestDirectApplicable`), a history accepted by `Abs.runOptD` that ends in a valid solution ends in a solution that
    contains the first-ranked candidate of every root requirement: conflicts below the direct requirements, learning and
    backjumps past the root-requirement decisions never downgrade a direct requirement. -/
theorem best_direct_accepted (U : Universe) (P : Problem) (hsoft : P.soft = []) (hw : CandsKnown U) (hn : CandNames U)
    (fcs : List Nat) (happ : bestDirectApplicable U P = some fcs) (evs : List Abs.Event) (st : Abs.St)
    (hrun : Abs.runOptD U P evs = some st) (sol : List Nat) (hsol : sol = st.trueSolvables)
    (hvalid : Valid U P sol []) : ∀ c ∈ fcs, c ∈ sol := by
  obtain ⟨⟨sstar, hb⟩, hf⟩ := bestHyp_of_applicable U P hw hn fcs happ
  intro c hc
  obtain ⟨r, hr, hfc⟩ := hf c hc
  exact Abs.best_direct U P hsoft sstar hb evs st hrun sol hsol hvalid r hr c hfc

/-- **C08 for the checked model** (all universes / problems without soft requirements / solver states / fuel). -/
theorem best_direct_checked (U : Universe) (P : Problem) (fuel : Nat) (s : MDet.S) (sol : List Nat)
    (hsoft : P.soft = []) (hw : CandsKnown U) (hn : CandNames U) (fcs : List Nat)
    (happ : bestDirectApplicable U P = some fcs)
    (h : (MDet.solveChecked U P fuel s).1 = .ok sol) : ∀ c ∈ fcs, c ∈ sol :=
  let ⟨hv, _, st, hrun, hsol⟩ := MDet.checkOutcome_ok (MDet.solveChecked_fst h)
  best_direct_accepted U P hsoft hw hn fcs happ _ st hrun sol hsol (MDet.valid_of_soft_nil hsoft hv).2

/-! Non-vacuity: package 1 = {10}, package 2 = {20 (rank 0), 21 (rank 1)}; the root requires package 1, 10 requires
    package 2. The hypothesis holds with first choices [10]; the history below — the root requirement is settled by
    propagation at level 1, then a decision on a requirement of solvable 10 — is accepted, and a decision on 10's
    requirement *before* the root requirement has a true candidate is rejected by the explicit-first guard. -/
def exU : Universe :=
  { pkgs := [(1, { cands := [10] }), (2, { cands := [20, 21] })],
    solvs := [(10, ⟨1, 0, .known [.single 2] []⟩), (20, ⟨2, 0, .known [] []⟩), (21, ⟨2, 1, .known [] []⟩)],
    vsets := [(1, ⟨1, [10]⟩), (2, ⟨2, [20, 21]⟩)] }
def exP : Problem := { reqs := [.single 1] }

example : bestDirectApplicable exU exP = some [10] := by decide
example : (Abs.runOptD exU exP
    [.clause 0 .root [], .assign 0 true 1 0, .var 1 (.solvable 10), .clause 1 (.requires 0 (.single 1)) [[1]],
     .assign 1 true 1 1, .var 2 (.solvable 20), .var 3 (.solvable 21), .clause 2 (.requires 1 (.single 2)) [[2, 3]],
     .assign 2 true 2 2]).map (·.trueSolvables) = some [10, 20] := by decide

end Resolvo.C08
