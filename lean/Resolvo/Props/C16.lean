import Resolvo.Basics
import Resolvo.Snapshot
import Resolvo.Props.C19
import Resolvo.SubUniverse
/-!
# C16 — a dependency snapshot is a faithful, serialisable copy of a provider

Per run the check compares the real `DependencySnapshot` field by field with the model's capture
(before and after a serde round-trip), solves live / through the snapshot / through the
deserialised snapshot and judges verdicts and solutions against the *live* data with the verified
oracles. Proved here, for every snapshot and any number of added version sets:
ids handed out by `add_package_requirement` never alias a captured id or each other, every
captured id (including the highest) still resolves to the captured set, and every added id
resolves to its added set. The serde part rests on `C19.serde_roundtrip` (every `Mapping` of the
snapshot keeps its contents).
-/
namespace Resolvo.C16
open Resolvo Resolvo.Snap

theorem foldl_max_ge (l : List (Nat × VsInfo)) (m : Nat) :
    m ≤ l.foldl (fun m e => Nat.max m e.1) m ∧ ∀ e ∈ l, e.1 ≤ l.foldl (fun m e => Nat.max m e.1) m := by
  induction l generalizing m with
  | nil => exact ⟨Nat.le_refl _, by intro e he; cases he⟩
  | cons x xs ih =>
    simp only [List.foldl_cons]
    obtain ⟨h1, h2⟩ := ih (Nat.max m x.1)
    refine ⟨Nat.le_trans (Nat.le_max_left _ _) h1, ?_⟩
    intro e he
    rcases List.mem_cons.mp he with rfl | he
    · exact Nat.le_trans (Nat.le_max_right _ _) h1
    · exact h2 e he

theorem captured_le_max (sn : Snapshot) (e : Nat × VsInfo) (he : e ∈ sn.versionSets) : e.1 ≤ maxVs sn :=
  (foldl_max_ge sn.versionSets 0).2 e he

/-- (d) added ids are fresh: never a captured id … -/
theorem added_fresh (sn : Snapshot) (k : Nat) (e : Nat × VsInfo) (he : e ∈ sn.versionSets) : addedId sn k ≠ e.1 := by
  have := captured_le_max sn e he
  unfold addedId; omega

/-- … and pairwise distinct -/
theorem added_distinct (sn : Snapshot) (j k : Nat) (h : addedId sn j = addedId sn k) : j = k := by
  unfold addedId at h; omega

/-- every captured version set — including the highest-numbered — stays resolvable to itself -/
theorem captured_resolves (sn : Snapshot) (added : List VsInfo) (id : Nat) (info : VsInfo)
    (h : sn.versionSets.lookup id = some info) : resolveVs sn added id = some info := by
  unfold resolveVs
  rw [if_neg (Nat.not_le.mpr (Nat.lt_succ_of_le (captured_le_max sn (id, info) (Resolvo.mem_of_lookup _ _ _ h)))), h]

/-- every added version set resolves to what was added -/
theorem added_resolves (sn : Snapshot) (added : List VsInfo) (k : Nat) (info : VsInfo)
    (h : added[k]? = some info) : resolveVs sn added (addedId sn k) = some info := by
  unfold resolveVs addedId
  rw [if_pos (Nat.le_add_right _ _), Nat.add_sub_cancel_left]
  exact h

/-- (e) the serialised form of each `Mapping` in a snapshot deserialises to the same contents -/
theorem mapping_roundtrip {V : Type} (m : Resolvo.Mapping.M V) (r : Nat → Option V)
    (h : Resolvo.C19.Represents m r) :
    Resolvo.C19.Represents (Resolvo.Mapping.deserialize m.chunkSize (Resolvo.Mapping.serialize m)) r :=
  Resolvo.C19.serde_roundtrip m r h

/-- the seeds are part of every capture (the closure only grows) -/
theorem closure_mono (U : Universe) (fuel : Nat) (queue seen : List Elem) (e : Elem) (h : e ∈ seen) :
    e ∈ closure U fuel queue seen := by
  induction fuel generalizing queue seen with
  | zero => exact h
  | succ n ih =>
    cases queue with
    | nil => exact h
    | cons q qs =>
      exact ih _ _ (List.mem_append_left _ h)

/-! ## Same verdict, and solutions valid against the live data

`SubAgree` (SubUniverse.lean) is decided by `subAgreeB`; the check evaluates it for every generated snapshot on the
captured solvables / version sets (tag `closure-certificate`), with the snapshot's contents compared field by field with
the real `DependencySnapshot` before and after the serde round-trip. -/

/-- **Same verdict through a snapshot**: if the captured part of the universe passes the closure certificate, the problem
    is solvable for the universe the snapshot denotes (with any added version sets) iff it is solvable for the live one. -/
theorem snapshot_solvable_agree (U : Universe) (P : Problem) (sn : Snapshot) (added : List (Nat × VsInfo)) (S V : List Nat)
    (h : subAgreeB U (toUniverse sn added) S V P = true) : Solvable (toUniverse sn added) P ↔ Solvable U P :=
  solvable_agree U _ S V P (subAgreeB_sound U _ S V P h)

/-- **Solutions found through a snapshot are valid against the live provider's data** (and vice versa), for selections
    of captured solvables. -/
theorem snapshot_valid_agree (U : Universe) (P : Problem) (sn : Snapshot) (added : List (Nat × VsInfo)) (S V : List Nat)
    (h : subAgreeB U (toUniverse sn added) S V P = true) (sel : List Nat) (hsub : ∀ s ∈ sel, s ∈ S) :
    Valid (toUniverse sn added) P sel [] ↔ Valid U P sel [] :=
  valid_agree U _ S V P (subAgreeB_sound U _ S V P h) sel hsub

end Resolvo.C16
