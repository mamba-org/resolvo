import Resolvo.Oracles
import Resolvo.CacheModel
import Resolvo.Props.C20
import Resolvo.MDet.OnceSpec
import Resolvo.MDet.Causal
/-!
# C09 — metadata is fetched lazily, causally and at most once

`causalCheck` (Oracles.lean) walks the provider call log of a run and accepts it only if every
`get_dependencies s` is for a soft requirement or a matching candidate of a requirement obtained
earlier (the root's or a previously fetched solvable's), every `get_candidates n` is for a name
mentioned by dependency information obtained earlier, and no call repeats. On the conflict-free
family the fetched solvables must be exactly the preferred closure (C07).
Proved here: (cache level) a repeated cache query never reaches the provider; (run level, the whole model of
`solve`, every history of solves on one solver with a synchronous provider) no `get_candidates` / `get_dependencies`
request is ever issued twice, and whatever was requested is in the cache afterwards; (run level, synchronous and
asynchronous) candidates are requested only for names that obtained dependencies mention.
-/
namespace Resolvo.C09
open Resolvo Resolvo.CacheM

theorem at_most_once_cache (U : Universe) (peek : Bool) (st : St) :
    (∀ n, (step U peek (step U peek st (.candidates n)).1 (.candidates n)).1.log = (step U peek st (.candidates n)).1.log) ∧
    (∀ s, (step U peek (step U peek st (.deps s)).1 (.deps s)).1.log = (step U peek st (.deps s)).1.log) :=
  Resolvo.C20.repeat_no_call U peek st

/-! ## Run level: at most once per solver -/
open Resolvo.MDet in
/-- a solver that has not issued a request yet (any cancellation plan, activity parameters, …) meets the invariant -/
theorem fresh_once (s : S) (h1 : s.asyncMode = false) (h2 : s.glog = []) : Once s :=
  ⟨h1, by rw [h2]; exact List.Pairwise.nil, by (intro n h; rw [h2] at h; cases h), by (intro n h; rw [h2] at h; cases h)⟩

open Resolvo.MDet in
/-- **At most once per solver.** Along every history of solves on one solver (any problems, any outcomes including
    Cancelled and Unsolvable, any cancellation plans, any fuel) with a synchronous provider, the requests in the call
    log are pairwise distinct: `get_candidates` is never issued twice for a package nor `get_dependencies` twice for a
    solvable — and everything that was requested is answered from the cache from then on. -/
theorem history_at_most_once (U : Universe) (fuel : Nat) (ps : List Problem) (s : S) (h : Once s) :
    Once (ps.foldl (fun st p => (solveRun U p fuel st).2) s) :=
  history_inv (fun P s => solveRun_once U P fuel s) ps h

open Resolvo.MDet in
theorem no_request_twice (U : Universe) (fuel : Nat) (ps : List Problem) (s : S) (h1 : s.asyncMode = false) (h2 : s.glog = []) :
    (callsOf (ps.foldl (fun st p => (solveRun U p fuel st).2) s).glog).Nodup :=
  (history_at_most_once U fuel ps s (fresh_once s h1 h2)).nodup

/-! ## Run level: candidates are requested causally -/
open Resolvo.MDet Resolvo.MDet.Causal in
/-- **`get_candidates` only for names that obtained dependencies mention** (second sentence of C09, candidates half; the
    whole model of `solve`, synchronous and asynchronous provider under every completion order; every universe, problem, fuel and solver state carried over from
    earlier solves, with or without hints, whatever the outcome): every package whose candidates were requested during a
    solve (`issuedCands`, which the driver checks to be the `c<n>` entries of the call log compared with the implementation's)
    is named by a requirement (any member of a union) or a constrains entry of the root or of a solvable whose
    dependencies are in the cache. The invariant `KInv` is maintained by every function of the model (`MDet/Causal.lean`),
    so at the moment of the request the dependencies had been obtained. -/
theorem candidates_requested_causally (U : Universe) (P : Problem) (fuel : Nat) (s : S) :
    ∀ n ∈ (solveRun U P fuel s).2.issuedCands, ∃ sid : Option Nat,
      (match sid with | none => True | some sv => sv ∈ (solveRun U P fuel s).2.fetchedDeps) ∧
      ∃ reqs cons, sidDeps U P sid = some (reqs, cons) ∧
        ((∃ r ∈ reqs, ∃ vs ∈ U.reqVersionSets r, U.vsName vs = n) ∨ ∃ vs ∈ cons, U.vsName vs = n) := by
  intro n hn
  obtain ⟨sid, h1, h2⟩ := (solveRun_kinv U P fuel s).cands n hn
  refine ⟨sid, ?_, h2⟩
  cases sid with
  | none => trivial
  | some sv => exact h1

open Resolvo.MDet Resolvo.MDet.Causal in
/-- and what remains queued is causal too: a requirement / constraint is only ever looked at for a solvable whose dependencies
    have been obtained and that really has it -/
theorem queued_tasks_causal (U : Universe) (P : Problem) (fuel : Nat) (s : S) :
    ∀ t ∈ (solveRun U P fuel s).2.queue, KTask U P (solveRun U P fuel s).2 t :=
  (solveRun_kinv U P fuel s).queue

/-- non-vacuity: the default solver state is fresh -/
example : Resolvo.MDet.Once {} := fresh_once {} rfl rfl

end Resolvo.C09
