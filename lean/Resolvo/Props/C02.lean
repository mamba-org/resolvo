import Resolvo.SpecProofs
import Resolvo.Abs.Fail
import Resolvo.Enc.ReferenceProofs
import Resolvo.MDet.EncSound
import Resolvo.MDet.Tracker
import Resolvo.MDet.Undo
/-!
# C02 — Unsolvable is reported only when no solution exists, and vice versa

What is proved here, for every universe, problem and history (no bound on sizes or steps):

* first, for the exact model of `solve`: `encoder_never_excludes_a_solution` and its companions below (the encoder's
  clauses, the decision tracker, `try_add_decision`), from `MDet/EncSound`, `MDet/Tracker`, `MDet/Undo`;
* `unsat_certified` — a solver history that the abstract system accepts and that ends in a
  recorded failure proves `¬ Solvable U P`. The checker replays *every* implementation run
  (the `verif-hooks` history) on every check, so each Unsolvable verdict is certified by a
  kernel-checked checker: provenance of each clause, unit-propagation of each implied
  assignment, RUP derivation of each learnt clause from its recorded antecedents.
* `decideSolvable_iff` — the independent decision procedure used as oracle is correct.
* `ok_solvable` — a valid answer witnesses solvability.
* `verdict_invariant` — `Solvable` does not depend on candidate order, ranks, favored
  candidates or hints (so neither does the verdict of any solver satisfying the two above).

Not proved (see plan §6 C02(d)): that the search terminates with a verdict for every input.
-/
namespace Resolvo.C02
open Resolvo Resolvo.Abs

/-- **The encoder never rules out a solution** (exact model of `Solver::solve`, no checker in between; every universe meeting
    the provider contract, every problem, fuel, solver state carried over from earlier solves, synchronous and asynchronous,
    whatever the outcome): every valid selection of the hard problem satisfies — under the assignment it induces on the
    model's variables — every requires, constrains, lock and exclusion clause the model holds after the solve, read the way
    the model's own propagation reads them. An `Unsolvable` verdict can therefore not come from a wrong clause of the
    encoder; what remains between this and `Unsolvable ⇒ ¬ Solvable` for the model itself is the CDCL core (unit
    propagation, learnt clauses, the at-most-one encoding proved in `Enc/AtMostOneProofs.lean`), which the checked model
    covers (`solveChecked_unsat_sound`). -/
theorem encoder_never_excludes_a_solution (U : Universe) (hU : MDet.WFU U) (P : Problem) (fuel : Nat) (s0 : MDet.S)
    (sel : List Nat) (hv : Valid U P.hard sel []) :
    ∀ c ∈ (MDet.solveRun U P fuel s0).2.clauses.toList, MDet.encoded c.kind = true →
      Sat.evalClause (MDet.muS (MDet.solveRun U P fuel s0).2 sel) (MDet.clauseLits (MDet.solveRun U P fuel s0).2 c) = true :=
  MDet.encoder_sound U hU P fuel s0 sel hv

/-- **The same fact in the direction a verdict uses it** (exact model, same quantification): when the requires, constrains,
    lock and exclusion clauses the model holds after a solve cannot all be satisfied by any assignment that makes the root
    variable true, the hard problem has no valid selection — an `Unsolvable` verdict derived from those clauses alone is
    right. (Contrapositive of `encoder_never_excludes_a_solution` with the root variable pinned; it is not vacuous because
    that theorem's hypothesis, a valid selection, is met by every solvable problem.) -/
theorem encoded_clauses_unsat_means_no_solution (U : Universe) (hU : MDet.WFU U) (P : Problem) (fuel : Nat) (s0 : MDet.S)
    (hun : ∀ μ : Nat → Bool, μ 0 = true → ∃ c ∈ (MDet.solveRun U P fuel s0).2.clauses.toList,
      MDet.encoded c.kind = true ∧
        Sat.evalClause μ (MDet.clauseLits (MDet.solveRun U P fuel s0).2 c) = false) :
    ¬ ∃ sel, Valid U P.hard sel [] :=
  MDet.no_solution_of_encoded_unsat U hU P fuel s0 hun

/-- **The decision tracker of the exact model is consistent after every solve** (`decision_tracker.rs`, `decision_map.rs`;
    every universe, problem, fuel, solver state, synchronous or asynchronous, whatever the outcome): the assignment map and
    the decision stack agree entry by entry, no variable is assigned twice, the propagation cursor stays within the stack —
    so the value `propagate`, `decide` and conflict analysis read for a variable is exactly what the stack records. -/
theorem decision_tracker_consistent (U : Universe) (P : Problem) (fuel : Nat) (s0 : MDet.S) :
    MDet.DTInv (MDet.solveRun U P fuel s0).2 ∧
    ∀ v b, MDet.valueOf (MDet.solveRun U P fuel s0).2 v = some b ↔
      ∃ d ∈ (MDet.solveRun U P fuel s0).2.stack, d.var = v ∧ d.val = b :=
  ⟨MDet.solveRun_dtinv U P fuel s0, fun v b => MDet.valueOf_iff (MDet.solveRun_dtinv U P fuel s0) v b⟩

/-- **`try_add_decision` never overwrites an assignment** (exact model of `decision_tracker.rs`, every state): it cannot
    fail; on an unassigned variable it pushes exactly that decision at the given level and answers `some true`; on an
    assigned one it leaves the stack and the assignment map untouched and answers `some false` (same value) or `none`
    (opposite value — the conflict `propagate` acts on). -/
theorem try_add_decision_post (v : Nat) (val : Bool) (reason level : Nat) (s : MDet.S) :
    ∃ r s', MDet.runM (MDet.tryAdd v val reason level) s = (.ok r, s') ∧
      (match MDet.valueOf s v with
       | none => r = some true ∧ s'.stack = ⟨v, val, reason⟩ :: s.stack ∧ MDet.valueOf s' v = some val ∧ MDet.levelOf s' v = level
       | some b => s'.stack = s.stack ∧ s'.amap = s.amap ∧ r = (if b == val then some false else none)) :=
  MDet.tryAdd_post v val reason level s

/-- (a) certified Unsolvable -/
theorem unsat_certified (U : Universe) (P : Problem) (history : List Event) (st : St)
    (haccepted : runOpt U P history = some st) (hfail : st.failed.isSome = true) :
    ¬ Solvable U P := fail_sound U P history st haccepted hfail

/-- the reference decision procedure is correct -/
theorem decideSolvable_correct (U : Universe) (P : Problem) (hw : CandsKnown U) :
    decideSolvable U P = true ↔ Solvable U P := decideSolvable_iff U P hw

/-- (b) a valid solution of the hard problem witnesses solvability -/
theorem ok_solvable (U : Universe) (P : Problem) (sel : List Nat) (h : validB U P.hard sel [] = true) :
    Solvable U P := ⟨sel, (validB_iff U P.hard sel []).mp h⟩

/-- Two universes that agree on the facts `Valid` reads: same candidate *sets* per version set,
    same dependencies, names, exclusions and locks — but possibly different candidate order,
    ranks, favored candidates and hints. -/
structure SameFacts (U U' : Universe) : Prop where
  cands : ∀ vs x, x ∈ U.candsOf vs ↔ x ∈ U'.candsOf vs
  nonMatching : ∀ vs x, x ∈ U.nonMatching vs ↔ x ∈ U'.nonMatching vs
  unions : ∀ u, U.unionOf u = U'.unionOf u
  deps : ∀ s, U.deps s = U'.deps s
  names : ∀ s, U.nameOf s = U'.nameOf s
  excluded : ∀ s, U.excluded s = U'.excluded s
  lockedOut : ∀ s, U.lockedOut s = U'.lockedOut s

theorem SameFacts.symm {U U' : Universe} (h : SameFacts U U') : SameFacts U' U :=
  ⟨fun vs x => (h.cands vs x).symm, fun vs x => (h.nonMatching vs x).symm, fun u => (h.unions u).symm,
    fun s => (h.deps s).symm, fun s => (h.names s).symm, fun s => (h.excluded s).symm, fun s => (h.lockedOut s).symm⟩

theorem reqCands_same (U U' : Universe) (h : SameFacts U U') (r : Req) (x : Nat) :
    x ∈ U.reqCands r ↔ x ∈ U'.reqCands r := by
  unfold Universe.reqCands Universe.reqVersionSets
  cases r with
  | single vs => simp [h.cands]
  | union u => simp [h.unions, h.cands]

theorem depsMet_same {U U' : Universe} (h : SameFacts U U') {sel : List Nat} {reqs : List Req}
    {cons : List Nat} (hm : DepsMet U sel reqs cons) : DepsMet U' sel reqs cons :=
  ⟨fun r hr => let ⟨c, hc, hs⟩ := hm.1 r hr; ⟨c, (reqCands_same U U' h r c).mp hc, hs⟩,
    fun vs hvs t ht => hm.2 vs hvs t ((h.nonMatching vs t).mpr ht)⟩

theorem valid_same {U U' : Universe} (h : SameFacts U U') {P : Problem} {sel ex : List Nat}
    (hv : Valid U P sel ex) : Valid U' P sel ex := by
  obtain ⟨h1, h2, h3, h4⟩ := hv
  refine ⟨depsMet_same h h1, fun s hs => ?_, fun s hs he => ?_, fun s hs t ht hn => ?_⟩
  · obtain ⟨reqs, cons, hd, hm⟩ := h2 s hs
    exact ⟨reqs, cons, h.deps s ▸ hd, depsMet_same h hm⟩
  · rw [← h.excluded, ← h.lockedOut]; exact h3 s hs he
  · exact h4 s hs t ht (by rw [h.names, h.names]; exact hn)

/-- (c) the verdict a correct solver must give is invariant under reordering of candidates,
    different ranks, favored candidates and hints -/
theorem verdict_invariant (U U' : Universe) (h : SameFacts U U') (P : Problem) :
    Solvable U P ↔ Solvable U' P :=
  ⟨fun ⟨sel, hv⟩ => ⟨sel, valid_same h hv⟩, fun ⟨sel, hv⟩ => ⟨sel, valid_same h.symm hv⟩⟩

/-! Non-vacuity: a two-package universe where the only candidate of the required package needs a
    package without candidates; the history below is accepted and records a failure. -/
def exU : Universe :=
  { pkgs := [(0, { cands := [0] }), (1, { cands := [] })],
    solvs := [(0, { name := 0, rank := 0, deps := .known [.single 1] [] })],
    vsets := [(0, { name := 0, matching := [0] }), (1, { name := 1, matching := [] })] }
def exP : Problem := { reqs := [.single 0] }
def exHistory : List Event :=
  [.clause 0 .root [], .assign 0 true 1 0, .var 1 (.solvable 0), .clause 1 (.requires 0 (.single 0)) [[1]],
   .clause 2 (.requires 1 (.single 1)) [[]], .assign 1 false 1 2, .unsolvable 1]
example : ((runOpt exU exP exHistory).map (fun st => st.failed.isSome)) = some true := by decide
example : decideSolvable exU exP = false := by decide

end Resolvo.C02
