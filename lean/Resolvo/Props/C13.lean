import Resolvo.MDet.CheckedProofs
/-!
# C13 — a solver can be reused: later solves are as correct as with a fresh solver

`history` runs any finite sequence of problems on one solver of the checked model: the per-solve
state is reset by `solve`, the cache (fetched candidates / dependencies, hint bits, sorted lists),
the poll counter and the cancellation plan persist. Because the theorems about `solveChecked`
hold for *every* initial solver state, each call of every history — after Unsolvable, after
Cancelled, with any cache contents — returns only valid solutions and only sound Unsolvable
verdicts. "Not requested again" and "terminates" are decided per run: the exact correspondence
compares the provider call log of whole histories (sync), and the reuse-async family checks
at-most-once on answers actually obtained and absence of deadlock after cancellation with requests
in flight (a genuine defect found there was repaired, see known_findings.json).
-/
namespace Resolvo.C13
open Resolvo Resolvo.MDet

/-- successive solves on one solver -/
def history (U : Universe) (fuel : Nat) : S → List Problem → List (Problem × Checked)
  | _, [] => []
  | s, P :: rest =>
    let r := solveChecked U P fuel s
    (P, r.1) :: history U fuel r.2 rest

/-- every entry of a history is the outcome of `solveChecked` on its problem, from some solver state -/
theorem mem_history {U : Universe} {fuel : Nat} {s : S} {ps : List Problem} {P : Problem} {r : Checked}
    (h : (P, r) ∈ history U fuel s ps) : ∃ s', (solveChecked U P fuel s').1 = r := by
  induction ps generalizing s with
  | nil => cases h
  | cons Q rest ih =>
    rcases List.mem_cons.mp h with h | h
    · cases h; exact ⟨s, rfl⟩
    · exact ih h

/-- every solution returned anywhere in any history is valid (C01) and supported (C05) -/
theorem each_valid (U : Universe) (fuel : Nat) (s : S) (ps : List Problem) (P : Problem) (sol : List Nat)
    (h : (P, Checked.ok sol) ∈ history U fuel s ps) :
    Valid U P sol (exemptOf P sol) ∧ ∀ x ∈ sol, Resolvo.C05.Supported U P sol x := by
  obtain ⟨s', hr⟩ := mem_history h
  exact ⟨solveChecked_ok_valid U P fuel s' sol hr, solveChecked_ok_supported U P fuel s' sol hr⟩

/-- every Unsolvable verdict anywhere in any history is the verdict a fresh solver must give -/
theorem each_verdict (U : Universe) (fuel : Nat) (s : S) (ps : List Problem) (P : Problem) (c : List Nat)
    (h : (P, Checked.unsat c) ∈ history U fuel s ps) : ¬ Solvable U P := by
  obtain ⟨s', hr⟩ := mem_history h
  exact solveChecked_unsat_sound U P fuel s' c hr

end Resolvo.C13
