import Resolvo.CacheModel
import Resolvo.CacheProofs
import Resolvo.CacheOwners
/-!
# C20 — SolverCache answers are consistent with the provider and stable
-/
namespace Resolvo.C20
open Resolvo Resolvo.CacheM

/-- (a) matching / non-matching partition the package's candidates exactly as `filter_candidates`
    defines (whatever order the provider's filter returns them in), and keep the provider's order when the filter does. -/
theorem partition (U : Universe) (vs : Nat) :
    (∀ x, x ∈ U.pkgCands vs ↔ (x ∈ U.candsOf vs ∨ x ∈ U.nonMatching vs)) ∧
    (∀ x, ¬ (x ∈ U.candsOf vs ∧ x ∈ U.nonMatching vs)) ∧
    (U.filterRev = false → (U.candsOf vs).Sublist (U.pkgCands vs) ∧ (U.nonMatching vs).Sublist (U.pkgCands vs)) := by
  unfold Universe.candsOf Universe.nonMatching
  refine ⟨?_, ?_, ?_⟩
  · intro x
    simp only [Universe.mem_reord, List.mem_filter, Bool.not_eq_true']
    constructor
    · intro h
      cases hm : U.matchesVs vs x
      · exact Or.inr ⟨h, rfl⟩
      · exact Or.inl ⟨h, rfl⟩
    · rintro (h | h) <;> exact h.1
  · intro x
    simp only [Universe.mem_reord, List.mem_filter, Bool.not_eq_true']
    rintro ⟨⟨_, h1⟩, ⟨_, h2⟩⟩
    rw [h1] at h2; cases h2
  · intro h
    unfold Universe.reord
    simp only [h, Bool.false_eq_true, if_false]
    exact ⟨List.filter_sublist, List.filter_sublist⟩

/-- the matching list is exactly what the provider's filter returns: the matching candidates in the provider's candidate
    order, reversed if the filter reverses -/
theorem matching_exact (U : Universe) (vs : Nat) :
    U.candsOf vs = (if U.filterRev then ((U.pkgCands vs).filter (U.matchesVs vs)).reverse else (U.pkgCands vs).filter (U.matchesVs vs)) ∧
    U.nonMatching vs = (if U.filterRev then ((U.pkgCands vs).filter (fun s => !U.matchesVs vs s)).reverse
                        else (U.pkgCands vs).filter (fun s => !U.matchesVs vs s)) := ⟨rfl, rfl⟩

/-- (b) sorted candidates: the matching ones, in `sort_candidates` order … -/
theorem sorted_members (U : Universe) (vs : Nat) (x : Nat) : x ∈ sortedCands U vs ↔ x ∈ U.candsOf vs :=
  mem_sortedCands U vs x

/-- … with the favored candidate moved to the front and the others' relative order unchanged … -/
theorem sorted_favored (U : Universe) (vs f : Nat) (pre post : List Nat)
    (hfav : pkgFavored U vs = some f) (hs : rankSort U (U.candsOf vs) = pre ++ f :: post) (hpre : f ∉ pre) :
    sortedCands U vs = f :: pre ++ post := by
  unfold sortedCands
  rw [hfav, hs, favoredFirst_split f pre post hpre]

/-- … and untouched when there is no favored candidate or it does not match. -/
theorem sorted_unfavored (U : Universe) (vs : Nat)
    (h : pkgFavored U vs = none ∨ ∃ f, pkgFavored U vs = some f ∧ f ∉ U.candsOf vs) :
    sortedCands U vs = rankSort U (U.candsOf vs) := by
  unfold sortedCands
  rcases h with h | ⟨f, hf, hn⟩
  · rw [h]; rfl
  · rw [hf]
    exact favoredFirst_not_mem f _ fun hm => hn ((mem_rankSort U f _).mp hm)

theorem sort_is_sorted (U : Universe) (vs : Nat) : RankSorted U (rankSort U (U.candsOf vs)) :=
  rankSort_sorted U _

/-- (c) answers do not depend on the cache state: a repeated query returns identical contents. -/
theorem answer_state_independent (U : Universe) (peek peek' : Bool) (st st' : St) (op : Op)
    (hop : ∀ s, op ≠ .available s ∧ op ≠ .depsStart s ∧ op ≠ .depsDrop s ∧ op ≠ .depsFinish s)
    (hop' : ∀ n k, op ≠ .candStart n k ∧ op ≠ .candDrop k ∧ op ≠ .candOpen n ∧ op ≠ .candPoll k) :
    (step U peek st op).2 = (step U peek' st' op).2 := by
  cases op with
  | candidates n => rfl
  | matching vs => rfl
  | nonMatching vs => rfl
  | sorted r =>
    cases r with
    | single vs => rfl
    | union u => simp only [step]; split <;> split <;> rfl
  | deps s => rfl
  | available s => exact absurd rfl (hop s).1
  | depsStart s => exact absurd rfl (hop s).2.1
  | depsDrop s => exact absurd rfl (hop s).2.2.1
  | depsFinish s => exact absurd rfl (hop s).2.2.2
  | candStart n k => exact absurd rfl (hop' n k).1
  | candDrop k => exact absurd rfl (hop' 0 k).2.1
  | candOpen n => exact absurd rfl (hop' n 0).2.2.1
  | candPoll k => exact absurd rfl (hop' 0 k).2.2.2

theorem fetchCands_idem (U : Universe) (st : St) (n : Nat) :
    fetchCands U (fetchCands U st n) n = fetchCands U st n := by
  unfold fetchCands
  split <;> simp

theorem fetchDeps_idem (st : St) (s : Nat) : fetchDeps (fetchDeps st s) s = fetchDeps st s := by
  unfold fetchDeps
  split <;> simp

/-- … and a repeated `get_or_cache_candidates` / `get_or_cache_dependencies` does not consult the
    provider again (the call log is unchanged). -/
theorem repeat_no_call (U : Universe) (peek : Bool) (st : St) :
    (∀ n, (step U peek (step U peek st (.candidates n)).1 (.candidates n)).1.log = (step U peek st (.candidates n)).1.log) ∧
    (∀ s, (step U peek (step U peek st (.deps s)).1 (.deps s)).1.log = (step U peek st (.deps s)).1.log) := by
  constructor
  · intro n
    simp only [step]
    rw [fetchCands_idem]
  · intro s
    simp only [step]
    rw [fetchDeps_idem]

/-- (d) the availability query is true exactly for hinted or already-fetched solvables. -/
theorem available_iff (U : Universe) (peek : Bool) (st : St) (s : Nat) :
    (step U peek st (.available s)).2 = .bool true ↔ (s ∈ st.fetchedDeps ∨ s ∈ st.hinted) := by
  simp only [step, Ans.bool.injEq, Bool.or_eq_true, List.contains_iff_mem]

/-- … in particular a dependency request that is merely in flight, or was abandoned, does not make a solvable available:
    starting or dropping a request changes the answer of no availability query -/
theorem inflight_not_available (U : Universe) (peek : Bool) (st : St) (s t : Nat) :
    (step U peek (step U peek st (.depsStart s)).1 (.available t)).2 = (step U peek st (.available t)).2 ∧
    (step U peek (step U peek st (.depsDrop s)).1 (.available t)).2 = (step U peek st (.available t)).2 := by
  constructor
  · simp only [step]
    split
    · rfl
    · split <;> rfl
  · simp only [step]
    split <;> rfl

/-- **Concurrent requests for one package share one provider call.** While a request for the candidates of `n` is in
    flight (a future that sent it is alive), a further `get_or_cache_candidates(n)` does not consult the provider (the
    call log is unchanged) and does not touch the marker … -/
theorem waiter_no_call (U : Universe) (peek : Bool) (st : St) (n k : Nat) (h : st.marker n = true) :
    (step U peek st (.candStart n k)).1.log = st.log ∧ (step U peek st (.candStart n k)).1.marker n = true := by
  simp only [step]
  split
  · exact ⟨rfl, h⟩
  · split
    · exact ⟨rfl, h⟩
    · unfold candEnter
      rw [if_pos h]
      refine ⟨rfl, ?_⟩
      unfold St.marker at h ⊢
      simp only [List.any_append, h, Bool.true_or]

/-- … and abandoning a future that merely *waits* leaves the marker of the request it waited for in place and makes no
    provider call: the request stays the only one (a dropped waiter must not clear the way for a second request). -/
theorem drop_waiter_keeps_request (U : Universe) (peek : Bool) (st : St) (k m : Nat) (b : Bool) (n : Nat)
    (hk : st.slots.lookup k = some (.waiter m b)) (h : ∃ p ∈ st.slots, p.1 ≠ k ∧ p.2.isOwnerOf n = true) :
    (step U peek st (.candDrop k)).1.log = st.log ∧ (step U peek st (.candDrop k)).1.marker n = true := by
  have hs : step U peek st (.candDrop k) = ({ st with slots := st.slots.filter (·.1 != k) }, .word "dropped") := by
    simp only [step, hk]
  rw [hs]
  obtain ⟨p, hp, hpk, ho⟩ := h
  exact ⟨rfl, List.any_eq_true.mpr ⟨p, List.mem_filter.mpr ⟨hp, by simpa using hpk⟩, ho⟩⟩

/-- **Every history** (any sequence of queries and of futures started, polled, answered and dropped on a fresh cache): at
    most one `get_candidates` request per package is in flight - every other live future for the package waits for it. -/
theorem one_request_per_package_in_flight (U : Universe) (peek : Bool) (ops : List Op) (n : Nat) :
    owners n (run U peek {} ops).1.slots ≤ 1 :=
  run_ownerUnique U peek ops {} init_ownerUnique n

/-- the hypotheses of the two theorems are met by a state with one request in flight and one future waiting for it -/
example : let st : St := { slots := [(0, .owner 5 false), (1, .waiter 5 false)] }
    st.marker 5 = true ∧ st.slots.lookup 1 = some (.waiter 5 false) ∧ ∃ p ∈ st.slots, p.1 ≠ 1 ∧ p.2.isOwnerOf 5 = true := by
  refine ⟨by decide, by decide, (0, .owner 5 false), by simp, by decide, by decide⟩

end Resolvo.C20
