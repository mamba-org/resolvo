import Resolvo.SpecProofs
/-!
# C01 — every returned solution satisfies all requirements, constraints and exclusions

`Valid` (Spec.lean) is the property's statement: root requirements and constraints, every
selected solvable's requirements and constrains (candidates as listed by `get_candidates` and
filtered by `filter_candidates`; a union is met by a candidate of any member), no excluded /
Unknown-dependency / locked-out solvable except the directly named soft requirements, one
solvable per package name.

Proved here: the executable checker `validB`, which the check evaluates on **every** answer the
implementation returns (sync and async, all hint patterns, debug and release builds), decides
`Valid` exactly — so a reported violation is a genuine counterexample and a passing run means
every explored answer satisfied the full statement. The universal statement about the search
itself ("for all inputs the model of `solve` returns only valid selections") is the refinement
obligation of plan §3.6; for the checked model it is a theorem (`MDet.solveChecked_ok_valid`,
`MDet/CheckedProofs.lean`); see the evidence file for what is proved vs checked per run.
-/
namespace Resolvo.C01
open Resolvo

/-- the oracle is exact -/
theorem valid_decided (U : Universe) (P : Problem) (sel exempt : List Nat) :
    validB U P sel exempt = true ↔ Valid U P sel exempt := validB_iff U P sel exempt

/-- the four conjuncts, spelled out as the property text has them -/
theorem valid_unfold (U : Universe) (P : Problem) (sel exempt : List Nat) (h : Valid U P sel exempt) :
    (∀ r ∈ P.reqs, ∃ c ∈ U.reqCands r, c ∈ sel) ∧
    (∀ vs ∈ P.constraints, ∀ t ∈ U.nonMatching vs, t ∉ sel) ∧
    (∀ s ∈ sel, ∃ reqs cons, U.deps s = .known reqs cons ∧
        (∀ r ∈ reqs, ∃ c ∈ U.reqCands r, c ∈ sel) ∧ (∀ vs ∈ cons, ∀ t ∈ U.nonMatching vs, t ∉ sel)) ∧
    (∀ s ∈ sel, s ∉ exempt → U.excluded s = false ∧ U.lockedOut s = false) ∧
    (∀ s ∈ sel, ∀ t ∈ sel, U.nameOf s = U.nameOf t → s = t) :=
  ⟨h.1.1, h.1.2, h.2.1, h.2.2.1, h.2.2.2⟩

/-- A selection accepted for the hard problem stays acceptable when soft requirements are
    exempted (the exemption only weakens the statement). -/
theorem valid_mono_exempt (U : Universe) (P : Problem) (sel e1 e2 : List Nat) (hsub : ∀ x ∈ e1, x ∈ e2)
    (h : Valid U P sel e1) : Valid U P sel e2 :=
  ⟨h.1, h.2.1, fun s hs hne => h.2.2.1 s hs (fun hm => hne (hsub s hm)), h.2.2.2⟩

/-! Non-vacuity: a concrete valid selection with a union requirement and a constrains entry. -/
def exU : Universe :=
  { pkgs := [(0, { cands := [0, 1] }), (1, { cands := [2] })],
    solvs := [(0, { name := 0, rank := 0, deps := .known [.single 2] [1] }),
              (1, { name := 0, rank := 1, deps := .known [] [] }),
              (2, { name := 1, rank := 0, deps := .known [] [] })],
    vsets := [(0, { name := 0, matching := [0, 1] }), (1, { name := 0, matching := [0] }), (2, { name := 1, matching := [2] })],
    unions := [(0, [1, 2])] }
example : validB exU { reqs := [.union 0, .single 0] } [0, 2] [] = true := by decide
example : validB exU { reqs := [.union 0, .single 0] } [1] [] = false := by decide

end Resolvo.C01
