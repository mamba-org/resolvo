import Resolvo.MDet.LogSpec
import Resolvo.MDet.GhostSpec
/-!
# C12 — cancellation is honoured promptly and faithfully

Model level (`MDet`): every uncached `get_candidates` / `get_dependencies` and every propagation
round is preceded by a poll of `should_cancel_with_value`; a poll that returns a value aborts the
solve with exactly that value before any further provider request is logged. Proved first for
the two cache entry points (the poll sites of `cache.rs`); the third site (`propagate`) is by
definition its first action. Then for the whole of `solve` ("Run level" below). The exact correspondence compares the model's call log — including
every poll, in order — with the real solver's under cancellation plans drawn from the polls and
provider requests of the uncancelled run (first-only, persistent and transient signals).
-/
namespace Resolvo.C12
open Resolvo Resolvo.MDet

/-- a poll that sees the signal aborts with exactly the provider's value, logging only the poll -/
theorem poll_fires (s : S) (h : fires s = true) :
    pollCancel s = (.error (.cancelled (7000 + s.polls)), { s with polls := s.polls + 1, log := s!"P{s.polls}" :: s.log, glog := .poll s.polls true :: s.glog }) :=
  if_pos h

/-- a poll that does not see the signal has no effect beyond being logged -/
theorem poll_transparent (s : S) (h : fires s = false) :
    pollCancel s = (.ok (), { s with polls := s.polls + 1, log := s!"p{s.polls}" :: s.log, glog := .poll s.polls false :: s.glog }) :=
  if_neg (Bool.eq_false_iff.mp h)

/-- an uncached dependency request whose poll sees the signal is never issued: the solve aborts
    with the provider's value, only the poll is logged, nothing is fetched -/
theorem no_deps_request_after_signal (U : Universe) (sv : Nat) (s : S) (hun : s.fetchedDeps.contains sv = false)
    (h : fires s = true) :
    getDeps U sv s = (.error (.cancelled (7000 + s.polls)), { s with polls := s.polls + 1, log := s!"P{s.polls}" :: s.log, glog := .poll s.polls true :: s.glog }) := by
  show runM (getDeps U sv) s = _
  unfold getDeps
  simp only [runM_bind, runM_get, hun, Bool.not_false, if_true, runM_pollCancel, if_pos h]

/-- the same for an uncached candidates request -/
theorem no_cands_request_after_signal (U : Universe) (n : Nat) (s : S) (hun : s.fetchedCands.contains n = false)
    (h : fires s = true) :
    getCandidates U n s = (.error (.cancelled (7000 + s.polls)), { s with polls := s.polls + 1, log := s!"P{s.polls}" :: s.log, glog := .poll s.polls true :: s.glog }) := by
  show runM (getCandidates U n) s = _
  unfold getCandidates
  simp only [runM_bind, runM_get, hun, Bool.not_false, if_true, runM_pollCancel, if_pos h]

/-! ## Run level: the whole of `solve`

`S.glog` is the structured twin of the provider call log (the driver checks on every case that it renders to the
call log, which in turn equals the real solver's log entry by entry): `poll k fired` = the k-th call of
`should_cancel_with_value` and whether it returned a value, `call` = a `get_candidates` / `get_dependencies`
request is started, `got` = its answer was obtained. The theorems hold for every universe, problem, fuel and
solver state — any cancellation plan, warm or cold cache, synchronous provider or asynchronous provider under
any completion order (`MDet/LogSpec.lean`: the discipline composes over sequencing, loops and early exits). -/

/-- **Faithful, and nothing afterwards.** If `solve` ends `Cancelled v`, the newest entry of the call log is a poll
    that returned a value, `v` is the value of that very poll, and no other poll of this solve returned one: no
    provider request is started — indeed nothing at all is logged — after cancellation was observed. -/
theorem cancelled_faithful (U : Universe) (P : Problem) (fuel : Nat) (s : S) (v : Nat)
    (h : (solveRun U P fuel s).1 = .stop (.cancelled v)) :
    ∃ k rest, (solveRun U P fuel s).2.glog = .poll k true :: rest ++ s.glog ∧ v = 7000 + k ∧ NoFired rest := by
  obtain ⟨new, hg, _, hc⟩ := solveRun_chunk U P fuel s
  rw [h] at hc
  obtain ⟨k, rest, hnew, hv, hnf⟩ := hc
  exact ⟨k, rest, by rw [hg, hnew], hv, hnf⟩

/-- **Never a solution or a conflict instead.** If any poll of this solve returned a value, the solve ends `Cancelled`. -/
theorem fired_poll_cancels (U : Universe) (P : Problem) (fuel : Nat) (s : S) (new : List GEv)
    (hg : (solveRun U P fuel s).2.glog = new ++ s.glog) (k : Nat) (hk : GEv.poll k true ∈ new) :
    (solveRun U P fuel s).1 = .stop (.cancelled (7000 + k)) := by
  obtain ⟨new', hg', _, hc⟩ := solveRun_chunk U P fuel s
  have hnn : new = new' := by
    have : new ++ s.glog = new' ++ s.glog := by rw [← hg, ← hg']
    exact List.append_cancel_right this
  subst hnn
  -- only a cancelled solve has a fired poll in its chunk
  generalize (solveRun U P fuel s).1 = o at hc ⊢
  match o, hc with
  | .stop (.cancelled v), ⟨k', rest, hnew, hv, hnf⟩ =>
    rw [hnew] at hk
    rcases List.mem_cons.mp hk with h1 | h1
    · cases h1; rw [hv]
    · exact absurd h1 (hnf k)
  | .ok _, hc | .unsat _, hc | .stop (.panic _), hc | .stop .outOfFuel, hc => exact absurd hk (hc k)

/-- **Promptly.** Every provider request a solve starts is directly preceded by a poll of
    `should_cancel_with_value` that returned nothing: there is no request without a fresh look at the signal. -/
theorem every_request_polled (U : Universe) (P : Problem) (fuel : Nat) (s : S) :
    ∃ new, (solveRun U P fuel s).2.glog = new ++ s.glog ∧ CallsPolled new := by
  obtain ⟨new, hg, hp, _⟩ := solveRun_chunk U P fuel s
  exact ⟨new, hg, hp⟩

/-- the same across any history of solves on one solver (C13's quantifier) -/
theorem history_requests_polled (U : Universe) (fuel : Nat) (ps : List Problem) (s : S) :
    ∃ new, (ps.foldl (fun st p => (solveRun U p fuel st).2) s).glog = new ++ s.glog ∧ CallsPolled new := by
  refine history_inv (I := fun st => ∃ new, st.glog = new ++ s.glog ∧ CallsPolled new) (fun p st ⟨n1, h1, c1⟩ => ?_) ps ⟨[], rfl, trivial⟩
  obtain ⟨n2, h2, c2⟩ := every_request_polled U p fuel st
  exact ⟨n2 ++ n1, by rw [h2, h1, List.append_assoc], callsPolled_append _ _ c2 c1⟩

/-- the same in terms of the call log itself (the strings compared with the real solver's log): `Ghost` — the call log
    is the rendering of the structured log — holds for a fresh solver and is maintained by every solve
    (`MDet.history_ghost`), so the newest entry of the call log of a cancelled solve is `P<k>` with `v = 7000 + k` -/
theorem cancelled_faithful_log (U : Universe) (P : Problem) (fuel : Nat) (s : S) (hg : Ghost s) (v : Nat)
    (h : (solveRun U P fuel s).1 = .stop (.cancelled v)) :
    ∃ k rest, (solveRun U P fuel s).2.log = s!"P{k}" :: rest ∧ v = 7000 + k := by
  obtain ⟨k, rest, hgl, hv, _⟩ := cancelled_faithful U P fuel s v h
  have hg' := solveRun_ghost U P fuel s hg
  unfold Ghost at hg'
  rw [hgl] at hg'
  exact ⟨k, (rest ++ s.glog).map gevStr, by rw [hg']; rfl, hv⟩

example : Ghost {} := rfl

/-! Non-vacuity of the `Cancelled` branch: every propagation round started while the signal is up ends `Cancelled`
    with the provider's value (so does every uncached request, `no_*_request_after_signal` above); the evidence file
    counts the generated cases that actually ended `Cancelled` with model and implementation in exact agreement. -/
example (level fuel : Nat) (s : S) (h : fires s = true) :
    (runM (propagate level fuel) s).1 = .error (.cancelled (7000 + s.polls)) := by
  unfold propagate
  rw [runM_bind, runM_pollCancel]
  simp [h]

end Resolvo.C12
