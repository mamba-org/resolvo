import Resolvo.Abs.BestDirect
import Resolvo.Props.C15
import Resolvo.MDet.CheckedProofs
import Resolvo.MDet.TruthSpec
/-! C15 (b) lifted to the checked model of `solve`. -/
namespace Resolvo.C15
open Resolvo Resolvo.MDet

/-- (b) spec level: a problem whose requirements force two different candidates of one package has
    no valid selection at all … -/
theorem pair_not_valid (U : Universe) (P : Problem) (vi vj ci cj : Nat) (sel ex : List Nat)
    (hi : Req.single vi ∈ P.reqs) (hj : Req.single vj ∈ P.reqs)
    (hci : ∀ c ∈ U.candsOf vi, c = ci) (hcj : ∀ c ∈ U.candsOf vj, c = cj)
    (hname : U.nameOf ci = U.nameOf cj) (hne : ci ≠ cj) : ¬ Valid U P sel ex := by
  intro hv
  obtain ⟨c1, hc1, hs1⟩ := hv.1.1 _ hi
  obtain ⟨c2, hc2, hs2⟩ := hv.1.1 _ hj
  have e1 : c1 = ci := hci c1 (Abs.reqCands_single U vi ▸ hc1)
  have e2 : c2 = cj := hcj c2 (Abs.reqCands_single U vj ▸ hc2)
  subst e1; subst e2
  exact hne (hv.2.2.2 c1 hs1 c2 hs2 hname)

/-- … so the checked model never answers such a problem with a solution, whatever the number of
    candidates, the order and grouping in which they were revealed, the cache state or the fuel. -/
theorem pair_never_ok (U : Universe) (P : Problem) (fuel : Nat) (s : S) (vi vj ci cj : Nat)
    (hi : Req.single vi ∈ P.reqs) (hj : Req.single vj ∈ P.reqs)
    (hci : ∀ c ∈ U.candsOf vi, c = ci) (hcj : ∀ c ∈ U.candsOf vj, c = cj)
    (hname : U.nameOf ci = U.nameOf cj) (hne : ci ≠ cj) :
    ∀ sol, (solveChecked U P fuel s).1 ≠ .ok sol := by
  intro sol h
  exact pair_not_valid U P vi vj ci cj sol _ hi hj hci hcj hname hne (solveChecked_ok_valid U P fuel s sol h)

/-- and when exactly one candidate is required and a valid selection exists, it never answers Unsolvable -/
theorem single_never_unsat (U : Universe) (P : Problem) (fuel : Nat) (s : S) (hs : Solvable U P) :
    ∀ c, (solveChecked U P fuel s).1 ≠ .unsat c := solveChecked_soft_never_error U P fuel s hs

/-! ### The exact model applies the at-most-one encoding to the right variables

The encoding proved above (`amo_sound`, `amo_complete_*`) constrains *variables*; these three facts, for every run of the
exact model of `Solver::solve`, say the variables are the right ones: a solvable has one variable, every variable an
at-most-one tracker holds stands for a solvable of that tracker's package, and every forbid clause is about a solvable of
the package it names. -/

/-- one variable per solvable: two variables of the model never stand for the same solvable -/
theorem solvable_variable_unique (U : Universe) (hU : WFU U) (P : Problem) (fuel : Nat) (s0 : S) (v v' x : Nat)
    (h1 : Abs.oSolv (solveRun U P fuel s0).2.origins v = some x) (h2 : Abs.oSolv (solveRun U P fuel s0).2.origins v' = some x) :
    v = v' :=
  have hi := (solveRun_tinv U hU P fuel s0).extra
  Option.some.inj ((hi.inj v x (Abs.oSolv_eq_some.mp h1)).symm.trans (hi.inj v' x (Abs.oSolv_eq_some.mp h2)))

/-- every variable an at-most-one tracker holds stands for a solvable of that tracker's package -/
theorem tracker_vars_of_package (U : Universe) (hU : WFU U) (P : Problem) (fuel : Nat) (s0 : S) (name : Nat) (tr : Amo.Tracker)
    (h : (solveRun U P fuel s0).2.trackers.lookup name = some tr) :
    ∀ x ∈ tr.vars, ∃ sx, Abs.oSolv (solveRun U P fuel s0).2.origins x = some sx ∧ U.nameOf sx = name :=
  (solveRun_tinv U hU P fuel s0).trk name tr h

/-- every forbid clause of the model is about a solvable of the package it names -/
theorem forbid_clause_of_package (U : Universe) (hU : WFU U) (P : Problem) (fuel : Nat) (s0 : S) (c : MClause)
    (hc : c ∈ (solveRun U P fuel s0).2.clauses.toList) (a h n : Nat) (pos : Bool) (hk : c.kind = .forbid a h pos n) :
    ∃ sx, Abs.oSolv (solveRun U P fuel s0).2.origins a = some sx ∧ U.nameOf sx = n := by
  have := (solveRun_tinv U hU P fuel s0).kinds c hc
  rw [hk] at this
  exact this

end Resolvo.C15
