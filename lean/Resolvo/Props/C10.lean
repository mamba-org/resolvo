import Resolvo.Oracles
import Resolvo.Enc.ReferenceProofs
import Resolvo.MDet.AsyncInv
import Resolvo.MDet.AsyncOnce
import Resolvo.MDet.CheckedProofs
import Resolvo.MDet.AsyncDeps
/-!
# C10 / C11 — asynchronous metadata requests

**Model.** `MDet/Async.lean` models `Encoder::encode` with a suspending provider: the ready queue of
`FuturesUnordered`, the in-flight marker and event listeners of `get_or_cache_candidates`, `try_join_all_eager` over
the version sets of a requirement and the executor's quiescent points, for a single-threaded executor that
completes one outstanding request at a time. The completion order is an input. The correspondence harness
compares the model with the real solver under the same completion order for exact equality of result, solution
order, provider call log (request start `c`/`d`, answer obtained `C`/`D`, cancellation polls), executor events
(`pending <set>` at every quiescent point, `complete <label>`) and the complete solver history.

**Proved here (about the model, for all universes, states and schedules).**
* C11, run level: `quiescent_every_future_started` — in every reachable state of the encoder loop, an empty ready
  queue means every pushed future has been started (`asyncStep_inv`: one step preserves the loop invariant);
* C11, one future: `req_future_starts_every_version_set` — one poll of the future of a requirement starts *every*
  version set of it (finished, request issued, or listening to a request in flight): requests are never issued one
  after the other's answer;
* C10, run level: `at_most_once_candidates` — along every run of the encoder loop no package's candidates are requested
  twice (`asyncStep_cinv` + `callbacks_issue_nothing`: the frame lemmas of `MDet/Frame.lean` show that clause generation
  never touches the provider cache);
* C10, run level: `at_most_once_dependencies` — along every run of the encoder loop no solvable's dependencies are
  requested twice (`asyncStep_dinv`; the callbacks are covered by the relational specification `QR`);
* C10, one await: `request_guard`, and `MDet.listener_issues_nothing` (MDet/AsyncPoll.lean) — a `get_candidates` request is issued only
  when the answer is neither cached nor in flight and is marked in flight from then on; an await that finds a
  request in flight issues nothing;
* `verdict_reference`: the verdict oracle is a function of the universe and the problem alone and exact, so all
  schedules that agree with it agree with each other and with the synchronous verdict.

**Checked per run (not theorems):** the run-level consequences — no request issued twice in a whole solve, every
request implied by received dependency information outstanding at every quiescent point (`c11Check`), no deadlock —
are evaluated on the implementation's own log and the model is compared event by event.
-/
namespace Resolvo.C10
open Resolvo Resolvo.MDet

/-- the reference verdict does not mention schedules at all and is exact: any two runs that both
    agree with it agree with each other (async = sync verdict) -/
theorem verdict_reference (U : Universe) (P : Problem) (hw : CandsKnown U) :
    decideSolvable U P = true ↔ Solvable U P := decideSolvable_iff U P hw

/-- C11 (one future): when the future of a requirement is polled, **all** its version sets have been started when
    the poll returns — each is finished, has issued its `get_candidates` request, listens to a request in flight or
    is parked on a filter / sort gate -/
theorem req_future_starts_every_version_set (U : Universe) (P : Problem) (t : ATask) (sid : SoR) (r : Req) (a : AS)
    (s s' : S) (t' : ATask) (a' : AS) (res : Option TaskResult) (ht : t.task = .req sid r)
    (h : runM (pollTask U P t a) s = (.ok (t', a', res), s')) :
    t'.children.map (·.vs) = t.children.map (·.vs) ∧ ∀ c ∈ t'.children, c.started := by
  revert t' a' res s'
  suffices PostAt (pollTask U P t a) s fun r _ =>
      r.1.children.map (·.vs) = t.children.map (·.vs) ∧ ∀ c ∈ r.1.children, c.started from fun _ _ _ _ => this _ _
  unfold pollTask
  rw [ht]
  exact .bind pollChildren_post fun _ _ ⟨v, st, _⟩ => .ite (fun _ => .pure ⟨v, st⟩) fun _ => .pure ⟨v, st⟩

/-- C11 (run level, model): in every state the encoder loop can reach — any universe, problem, solver state and
    completion order — an empty ready queue (the executor is about to see `Pending`) means every future pushed so far
    has been started: request outstanding, listening to one in flight, or parked on a filter/sort gate. With
    `req_future_starts_every_version_set` this covers every version set of every requirement known so far. -/
theorem quiescent_every_future_started {U : Universe} {P : Problem} {a : AS} {s : S} (h : Reach U P a s)
    (hq : a.ready = []) : ∀ t ∈ a.tasks, t.started :=
  fun t ht => ((reach_inv h).cover t ht).resolve_left fun hr => nomatch hq ▸ hr

/-- a universe with two packages and a root that requires both -/
def exU : Universe :=
  { pkgs := [(0, { cands := [0] }), (1, { cands := [1] })],
    solvs := [(0, ⟨0, 0, Deps.known [] []⟩), (1, ⟨1, 0, Deps.known [] []⟩)],
    vsets := [(0, ⟨0, [0]⟩), (1, ⟨1, [1]⟩)] }
def exP : Problem := { reqs := [.single 0, .single 1] }

/-- `n` iterations of the encoder loop as a function, so that the scenarios below are evaluated (by the kernel) -/
def steps (U : Universe) (P : Problem) : Nat → AS → S → Option (AS × S)
  | 0, a, s => some (a, s)
  | n + 1, a, s => match runM (asyncStep U P a) s with
    | (.ok (some a'), s') => steps U P n a' s'
    | _ => none

theorem reachFrom_steps {U : Universe} {P : Problem} {s0 : S} (n : Nat) {a : AS} {s : S} {r : AS × S}
    (h : ReachFrom U P s0 a s) (hr : steps U P n a s = some r) : ReachFrom U P s0 r.1 r.2 := by
  induction n generalizing a s with
  | zero => cases hr; exact h
  | succ n ih =>
    unfold steps at hr
    split at hr
    · next he => exact ih (.step h he) hr
    · cases hr

/-- a scenario: `n` iterations from the empty local state end in a state with the (decidable) property `p` -/
theorem scenario {U : Universe} {P : Problem} {s0 : S} (n : Nat) (p : AS → S → Bool)
    (h : (steps U P n {} s0).any (fun r => p r.1 r.2) = true) : ∃ a s, ReachFrom U P s0 a s ∧ p a s = true := by
  cases hr : steps U P n {} s0 with
  | none => rw [hr] at h; cases h
  | some r => rw [hr] at h; exact ⟨r.1, r.2, reachFrom_steps n .start hr, h⟩

/-- non-vacuity, and the scenario of the property itself: three steps of the model's encoder loop on a root with
    two requirements on distinct packages reach a state in which **both** `get_candidates` requests are outstanding
    (and the two requirement futures are next in the ready queue) — nothing has been answered yet -/
example : ∃ a s, Reach exU exP a s ∧ a.gates.map (·.1) = ["c0", "c1"] ∧ a.ready = [3, 4] ∧ s.fetchedCands = [] :=
  have ⟨a, s, h, hp⟩ := scenario (U := exU) (P := exP) (s0 := { queue := [.deps none], asyncMode := true }) 3
    (fun a s => decide (a.gates.map (·.1) = ["c0", "c1"] ∧ a.ready = [3, 4] ∧ s.fetchedCands = [])) (by decide +kernel)
  ⟨a, s, h.reach, of_decide_eq_true hp⟩

/-- C10 (run level, model): along every run of the encoder loop - any universe, problem, completion order - no
    package's candidates are requested twice, and every requested package is answered or still in flight -/
theorem at_most_once_candidates {U : Universe} {P : Problem} {s0 : S} {a : AS} {s : S}
    (h0 : s0.issuedCands.Nodup) (h1 : ∀ n ∈ s0.issuedCands, n ∈ s0.fetchedCands) (h : ReachFrom U P s0 a s) :
    s.issuedCands.Nodup ∧ ∀ n ∈ s.issuedCands, n ∈ s.fetchedCands ∨ (a.inflight.lookup n).isSome = true := by
  have : CInv a s := by
    induction h with
    | start => exact ⟨h0, fun n hn => Or.inl (h1 n hn)⟩
    | step _ hs ih => exact asyncStep_cinv U P _ _ _ _ ih hs
  exact ⟨this.nd, this.cov⟩

/-- C10 (run level, model): along every run of the encoder loop - any universe, problem, completion order - the
    dependencies of no solvable are requested twice. `DInv` (MDet/AsyncDeps.lean) is the invariant behind it: the
    `deps` futures that exist are pairwise distinct and belong to processed solvables, every requested solvable is
    processed, and a future that has not started has not been requested; callbacks, polls of other futures and the
    executor only extend the push queue by futures of newly processed solvables. -/
theorem at_most_once_dependencies {U : Universe} {P : Problem} {s0 : S} {a : AS} {s : S}
    (h0 : DInv {} s0 s0.queue) (h : ReachD U P s0 a s) : s.issuedDeps.Nodup := by
  have : DInv a s s.queue := by
    induction h with
    | start => exact h0
    | step _ hs ih => exact asyncStep_dinv U P _ _ _ _ ih hs
  exact this.nd

/-- the hypothesis holds at the start of a solve (nothing requested, nothing pushed) … -/
theorem at_most_once_dependencies_fresh {U : Universe} {P : Problem} {s0 : S} {a : AS} {s : S}
    (h1 : s0.issuedDeps = []) (h2 : s0.queue = []) (h : ReachD U P s0 a s) : s.issuedDeps.Nodup :=
  at_most_once_dependencies (dinv_fresh s0 h1 h2) h

/-- … and, non-vacuity, when `encode` has pushed the future of a newly processed solvable: one step of the loop
    adopts it, polls it and records exactly its request -/
example : ∃ a s, ReachD exU exP { queue := [.deps (some 0)], addedSolv := [some 0], asyncMode := true } a s ∧ s.issuedDeps = [0] :=
  ⟨_, _, .step .start rfl, rfl⟩

/-- the encoder's callbacks (clause generation) never issue a provider request nor touch what has been answered -/
theorem callbacks_issue_nothing (U : Universe) (P : Problem) (r : TaskResult) : Preserves cacheView (runCallback U P r) :=
  pres_runCallback U P r

/-- non-vacuity of `at_most_once_candidates`: a fresh solve (nothing requested) meets the hypotheses, and after three
    steps on the two-requirement root both packages are recorded as requested, once each -/
example : ∃ a s, ReachFrom exU exP { queue := [.deps none], asyncMode := true } a s ∧ s.issuedCands = [1, 0] :=
  have ⟨a, s, h, hp⟩ := scenario 3 (fun _ s => decide (s.issuedCands = [1, 0])) (by decide +kernel)
  ⟨a, s, h, of_decide_eq_true hp⟩

/-- C10 (one await): a `get_candidates` request for package `n` is issued only if the answer is neither cached nor
    already requested, and from then on it is marked in flight (so every later await of the same package listens
    instead of asking again) -/
theorem request_guard (U : Universe) (tid n : Nat) (a : AS) (s s' : S) (a' : AS)
    (h : runM (pollCands U tid n .notStarted a) s = (.ok (.owner, a'), s')) :
    s.fetchedCands.contains n = false ∧ a.inflight.lookup n = none ∧ a'.inflight.lookup n = some tid :=
  (pollCands_post _ _ h).2.2.1 rfl rfl

/-- non-vacuity: on a fresh cache the first await of package 5 issues the request and owns it; a second await (other
    future) of the same package then listens and issues nothing -/
example : ∃ a' s', runM (pollCands {} 0 5 .notStarted {}) {} = (.ok (.owner, a'), s') ∧
    ∃ a'' s'', runM (pollCands {} 1 5 .notStarted a') s' = (.ok (.listener, a''), s'') ∧ a''.gates = a'.gates :=
  ⟨_, _, rfl, _, _, rfl, rfl⟩

/-! ## Any completion order gives a correct result (checked model)

The completion order of the outstanding requests (`S.sched`), the mode (`asyncMode`, `gateFs`) and everything else
about the solver state are universally quantified in the theorems about `solveChecked`; the statements below spell
this out for C10. `withOrder s sched` is the solver state `s` switched to the asynchronous provider with the
completion order `sched`. -/

/-- the solver state `s` with an asynchronous provider (optionally asynchronous filter/sort) whose outstanding
    requests complete in the order `sched` -/
def withOrder (s : S) (sched : List String) (gateFs : Bool := false) : S :=
  { s with asyncMode := true, gateFs := gateFs, sched := sched }

/-- **Any completion order: the solution is valid per C01.** -/
theorem any_order_valid (U : Universe) (P : Problem) (fuel : Nat) (s : S) (sched : List String) (g : Bool) (sol : List Nat)
    (h : (solveChecked U P fuel (withOrder s sched g)).1 = .ok sol) : Valid U P sol (exemptOf P sol) :=
  solveChecked_ok_valid U P fuel _ sol h

/-- **Any completion order: Unsolvable only if there is no solution.** -/
theorem any_order_unsat_sound (U : Universe) (P : Problem) (fuel : Nat) (s : S) (sched : List String) (g : Bool) (c : List Nat)
    (h : (solveChecked U P fuel (withOrder s sched g)).1 = .unsat c) : ¬ Solvable U P :=
  solveChecked_unsat_sound U P fuel _ c h

/-- **The verdict does not depend on the completion order, and equals the synchronous verdict**: no two runs — under
    any two completion orders, or one of them synchronous (`s₂` arbitrary) — can end one with a solution and the
    other Unsolvable. -/
theorem verdict_independent_of_order (U : Universe) (P : Problem) (hsoft : P.soft = []) (fuel₁ fuel₂ : Nat) (s₁ s₂ : S)
    (sched : List String) (g : Bool) (sol c : List Nat)
    (h1 : (solveChecked U P fuel₁ (withOrder s₁ sched g)).1 = .ok sol) :
    (solveChecked U P fuel₂ s₂).1 ≠ .unsat c := by
  intro h2
  exact solveChecked_unsat_sound U P fuel₂ s₂ c h2 (solveChecked_ok_solvable U P fuel₁ _ sol hsoft h1)

/-- with soft requirements the hard verdict is still order-independent: a solvable hard problem never ends Unsolvable -/
theorem any_order_soft_never_error (U : Universe) (P : Problem) (fuel : Nat) (s : S) (sched : List String) (g : Bool)
    (hs : Solvable U P) : ∀ c, (solveChecked U P fuel (withOrder s sched g)).1 ≠ .unsat c :=
  solveChecked_soft_never_error U P fuel _ hs

/-- when the first choices are mutually compatible, every completion order yields exactly them (C07 under C10) -/
theorem any_order_preferred (U : Universe) (P : Problem) (fuel : Nat) (s : S) (sched : List String) (g : Bool)
    (sol pref : List Nat) (hsoft : P.soft = []) (hpc : preferredConsistent U P = some pref)
    (h : (solveChecked U P fuel (withOrder s sched g)).1 = .ok sol) : ∀ x, x ∈ sol ↔ x ∈ pref :=
  solveChecked_preferred U P fuel _ sol pref hsoft hpc h

end Resolvo.C10
