import Resolvo.Data.MappingProofs
/-!
# C19 — `Mapping` behaves as a map from ids to values, including iteration and serde

The model is `Resolvo.Mapping` (a literal transcription of `src/internal/mapping.rs`); the reference
is a function `Nat → Option V`. The lemmas about the model are in `Data/MappingProofs.lean`.
All theorems hold for every operation sequence, every id distribution and
every positive chunk size.
-/
namespace Resolvo.C19
open Resolvo.Mapping
variable {V : Type}

inductive Op (V : Type) where
  | insert (id : Nat) (v : V)
  | unset (id : Nat)
  /-- `get_mut(id)` and, if it returns a reference, a write of `v` through it -/
  | getMut (id : Nat) (v : V)

/-- One step of the model, with the value the Rust call returns. -/
def step (m : M V) : Op V → M V × Option V
  | .insert id v => Mapping.insert m id v
  | .unset id => Mapping.unset m id
  | .getMut id v => Mapping.getMut m id v

def refStep (r : Nat → Option V) : Op V → (Nat → Option V) × Option V
  | .insert id v => (fun j => if j = id then some v else r j, r id)
  | .unset id => (fun j => if j = id then none else r j, r id)
  | .getMut id v => (fun j => if j = id then (r id).map (fun _ => v) else r j, r id)

def run (m : M V) (ops : List (Op V)) : M V := ops.foldl (fun m op => (step m op).1) m
def refRun (r : Nat → Option V) (ops : List (Op V)) : Nat → Option V :=
  ops.foldl (fun r op => (refStep r op).1) r

def Represents (m : M V) (r : Nat → Option V) : Prop := Inv m ∧ ∀ id, Mapping.get m id = r id

/-- `get` is the abstraction function `slot`, so `m` represents exactly one map. -/
theorem represents_iff (m : M V) (r : Nat → Option V) : Represents m r ↔ Inv m ∧ slot m = r := by
  simp only [Represents, get_eq_slot, funext_iff]

theorem withCapacity_represents (c n : Nat) (hc : 0 < c) :
    Represents (withCapacity c n : M V) (fun _ => none) :=
  (represents_iff _ _).mpr ⟨inv_withCapacity c n hc, funext (slot_withCapacity c n)⟩

/-- Each operation returns what the reference returns and keeps the representation. -/
theorem step_refines (m : M V) (r : Nat → Option V) (h : Represents m r) (op : Op V) :
    (step m op).2 = (refStep r op).2 ∧ Represents (step m op).1 (refStep r op).1 := by
  obtain ⟨hi, rfl⟩ := (represents_iff m r).mp h
  rw [represents_iff]
  cases op with
  | insert id v => exact ⟨insert_prev m id v, inv_insert m hi id v, funext (slot_insert m hi.toShape id v)⟩
  | unset id => exact ⟨unset_prev m id, inv_unset m hi id, funext (slot_unset m hi.toShape id)⟩
  | getMut id v =>
    rw [step, refStep, getMut_eq_insert m hi]
    cases h : slot m id with
    | none => exact ⟨rfl, hi, funext fun j => (ite_eq_right_iff.mpr fun hj => by rw [hj, h]; rfl).symm⟩
    | some old => exact ⟨rfl, inv_insert m hi id v, funext (slot_insert m hi.toShape id v)⟩

/-- (a) `get` after any operation sequence agrees with the reference map. -/
theorem run_represents (m : M V) (r : Nat → Option V) (h : Represents m r) (ops : List (Op V)) :
    Represents (run m ops) (refRun r ops) := by
  induction ops generalizing m r with
  | nil => exact h
  | cons op ops ih => exact ih _ _ (step_refines m r h op).2

theorem get_refines (c : Nat) (hc : 0 < c) (n : Nat) (ops : List (Op V)) (id : Nat) :
    Mapping.get (run (withCapacity c n) ops) id = refRun (fun _ => none) ops id :=
  (run_represents _ _ (withCapacity_represents c n hc) ops).2 id

/-- (c) `iter` yields exactly the stored pairs … -/
theorem iter_complete (m : M V) (r : Nat → Option V) (h : Represents m r) (k : Nat) (v : V) :
    (k, v) ∈ Mapping.iter m ↔ r k = some v := by
  obtain ⟨hi, rfl⟩ := (represents_iff m r).mp h
  exact mem_iter m hi k v

/-- … in strictly ascending id order (hence each exactly once). -/
theorem iter_sorted (m : M V) : ((Mapping.iter m).map Prod.fst).Pairwise (· < ·) := by
  rw [iter_eq, List.pairwise_map]
  refine List.Pairwise.filterMap _ ?_ List.pairwise_lt_range
  intro a a' hlt b hb b' hb'
  obtain ⟨w, _, rfl⟩ := Option.map_eq_some_iff.mp hb
  obtain ⟨w', _, rfl⟩ := Option.map_eq_some_iff.mp hb'
  exact hlt

theorem iter_nodup (m : M V) : (Mapping.iter m).Nodup :=
  List.Pairwise.of_map Prod.fst (fun _ _ hlt he => Nat.lt_irrefl _ (he ▸ hlt)) (iter_sorted m)

/-- (b) `len` is the number of stored pairs. -/
theorem len_eq_iter_length (m : M V) (r : Nat → Option V) (h : Represents m r) :
    m.len = (Mapping.iter m).length :=
  h.1.len_eq.trans (length_iter m).symm

theorem isEmpty_iff (m : M V) (r : Nat → Option V) (h : Represents m r) :
    Mapping.isEmpty m = true ↔ ∀ k, r k = none := by
  rw [Mapping.isEmpty, beq_iff_eq, len_eq_iter_length m r h, List.length_eq_zero_iff, List.eq_nil_iff_forall_not_mem]
  exact ⟨fun h0 k => Option.eq_none_iff_forall_ne_some.mpr fun v hv => h0 (k, v) ((iter_complete m r h k v).mpr hv),
    fun hall ⟨k, v⟩ hm => nomatch (hall k).symm.trans ((iter_complete m r h k v).mp hm)⟩

/-- The round-trip holds whatever chunk size the deserialising side uses. -/
theorem serde_roundtrip_any (c : Nat) (hc : 0 < c) (m : M V) (r : Nat → Option V) (h : Represents m r) :
    Represents (deserialize c (serialize m)) r := by
  obtain ⟨hi, rfl⟩ := (represents_iff m r).mp h
  obtain ⟨hinv, _, hsl⟩ := insertAll_spec _ (inv_withCapacity c (serialize m).length hc) 0 (serialize m)
  refine (represents_iff _ _).mpr ⟨hinv, funext fun j => ?_⟩
  have := hsl j
  rw [Nat.zero_add, serialize_getElem? m hi, slot_withCapacity, Option.or_none] at this
  exact this

/-- (d) serde round-trip: same contents (and a well-formed mapping). -/
theorem serde_roundtrip (m : M V) (r : Nat → Option V) (h : Represents m r) :
    Represents (deserialize m.chunkSize (serialize m)) r :=
  serde_roundtrip_any m.chunkSize h.1.pos m r h

/-! ### Non-vacuity: a concrete sparse mapping meets the hypotheses and iterates fully. -/
example : Mapping.iter (run (Mapping.new 4 : M Nat) [.insert 5 50, .insert 200 2000, .insert 1 7, .unset 1])
    = [(5, 50), (200, 2000)] := by decide +kernel

end Resolvo.C19
