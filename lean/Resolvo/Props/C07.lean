import Resolvo.Props.C20
import Resolvo.Oracles
import Resolvo.MDet.CheckedProofs
import Resolvo.MDet.EncSound
/-!
# C07 — when the preferred candidates are mutually compatible, exactly they are selected

`preferredConsistent U P` (Oracles.lean) is the property's hypothesis made executable: the closure
of first choices (favored first, then `sort_candidates` order, union members in listed order) is a
valid selection in which each requirement is met only by its own first choice; the check compares
the implementation's solution with that closure on every generated conflict-free case.
Proved here: what "first choice" is — the favored candidate when it matches, else the best-ranked
matching candidate; for a union the first non-empty member decides.
-/
namespace Resolvo.C07
open Resolvo

theorem head_favoredFirst (f : Nat) (l : List Nat) (h : f ∈ l) : (favoredFirst (some f) l).head? = some f := by
  obtain ⟨pre, post, hl, hpre⟩ := List.eq_append_cons_of_mem h
  rw [hl, favoredFirst_split f pre post hpre]; rfl

/-- a matching favored candidate is the first choice of a single-version-set requirement -/
theorem firstChoice_favored (U : Universe) (vs f : Nat) (hf : pkgFavored U vs = some f)
    (hm : f ∈ U.candsOf vs) : firstChoice U (.single vs) = some f := by
  unfold firstChoice reqSorted Universe.reqVersionSets
  simp only [List.flatMap_cons, List.flatMap_nil, List.append_nil]
  unfold sortedCands
  rw [hf]
  exact head_favoredFirst f _ ((mem_rankSort U f _).mpr hm)

/-- without a (matching) favored candidate the first choice is the head of the provider's order,
    and it is a matching candidate of minimal rank -/
theorem firstChoice_ranked (U : Universe) (vs c : Nat)
    (hnf : pkgFavored U vs = none ∨ ∃ f, pkgFavored U vs = some f ∧ f ∉ U.candsOf vs)
    (hc : firstChoice U (.single vs) = some c) :
    c ∈ U.candsOf vs ∧ ∀ d ∈ U.candsOf vs, U.rank c ≤ U.rank d := by
  unfold firstChoice reqSorted Universe.reqVersionSets at hc
  simp only [List.flatMap_cons, List.flatMap_nil, List.append_nil] at hc
  rw [C20.sorted_unfavored U vs hnf] at hc
  obtain ⟨xs, hl⟩ := List.head?_eq_some_iff.mp hc
  have hsorted := rankSort_sorted U (U.candsOf vs)
  rw [RankSorted, hl] at hsorted
  refine ⟨(mem_rankSort U c _).mp (hl ▸ List.mem_cons_self), fun d hd => ?_⟩
  rcases List.mem_cons.mp (hl ▸ (mem_rankSort U d _).mpr hd) with rfl | hdm
  · exact Nat.le_refl _
  · exact (List.pairwise_cons.mp hsorted).1 d hdm

/-- union members are tried in their listed order: the candidate list is the concatenation -/
theorem union_order (U : Universe) (u : Nat) :
    reqSorted U (.union u) = (U.unionOf u).flatMap (sortedCands U) := rfl

/-! ## The property itself

`preferred_exact_accepted`: for every universe and problem without soft requirements whose first choices are
mutually compatible (`preferredConsistent U P = some pref`), **every** solver history that the decision-guarded
abstract system accepts (`Abs.runOptD`: provenance of clauses, unit propagation with reasons, RUP-checked learnt
clauses, and decisions that pick the first undecided candidate — in `SolverCache` order — of an unsatisfied
requirement of a selected solvable) and that ends in a valid solution ends in exactly `pref`. The real solver's
history is submitted to `runOptD` on every generated case (tag `mdet-decide-guard`), and so is the model's
(`solveChecked`), for which the statement holds with no further hypothesis: `preferred_exact_checked`. -/

theorem preferred_exact_accepted (U : Universe) (P : Problem) (hsoft : P.soft = []) (pref : List Nat)
    (hpc : preferredConsistent U P = some pref) (evs : List Abs.Event) (st : Abs.St)
    (hrun : Abs.runOptD U P evs = some st) (sol : List Nat) (hsol : sol = st.trueSolvables)
    (hvalid : Valid U P sol []) : ∀ s, s ∈ sol ↔ s ∈ pref :=
  Abs.preferred_exact U P hsoft pref hpc evs st hrun sol hsol hvalid

theorem preferred_exact_checked (U : Universe) (P : Problem) (fuel : Nat) (s : MDet.S) (sol pref : List Nat)
    (hsoft : P.soft = []) (hpc : preferredConsistent U P = some pref)
    (h : (MDet.solveChecked U P fuel s).1 = .ok sol) : ∀ x, x ∈ sol ↔ x ∈ pref :=
  MDet.solveChecked_preferred U P fuel s sol pref hsoft hpc h

/-- no solvable outside the preferred selection is ever true on the trail of an accepted history — also in the
    middle of the search (the solver never even *tries* anything else when the first choices are compatible) -/
theorem never_tries_anything_else (U : Universe) (P : Problem) (hsoft : P.soft = []) (pref : List Nat)
    (hpc : preferredConsistent U P = some pref) (evs : List Abs.Event) (st : Abs.St)
    (hrun : Abs.runOptD U P evs = some st) (e : Abs.Entry) (he : e ∈ st.trail) (hv : e.val = true)
    (s : Nat) (hs : st.solvOf e.var = some s) : s ∈ pref :=
  Abs.accepted_entry_in_pref U P hsoft pref (Abs.prefHyp_of_consistent U P pref hpc).1 evs st hrun e he hv s hs

/-! Non-vacuity: package 1 = {10 (rank 0), 11 (rank 1)}, package 2 = {20}; root requires vs 1 (any of package 1);
    10 requires vs 2 (any of package 2). The preferred closure is [10, 20] and the history below is accepted. -/
def exU : Universe :=
  { pkgs := [(1, { cands := [10, 11] }), (2, { cands := [20] })],
    solvs := [(10, ⟨1, 0, .known [.single 2] []⟩), (11, ⟨1, 1, .known [] []⟩), (20, ⟨2, 0, .known [] []⟩)],
    vsets := [(1, ⟨1, [10, 11]⟩), (2, ⟨2, [20]⟩)] }
def exP : Problem := { reqs := [.single 1] }
def exHistory : List Abs.Event :=
  [.clause 0 .root [], .assign 0 true 1 0, .var 1 (.solvable 10), .var 2 (.solvable 11),
   .clause 1 (.requires 0 (.single 1)) [[1, 2]], .assign 1 true 2 1,
   .var 3 (.solvable 20), .clause 2 (.requires 1 (.single 2)) [[3]], .assign 3 true 2 2]

example : preferredConsistent exU exP = some [10, 20] := by decide
example : (Abs.runOptD exU exP exHistory).map (·.trueSolvables) = some [10, 20] := by decide
-- and the guard is not vacuous: deciding the second-ranked candidate first is rejected
example : Abs.runOptD exU exP
    [.clause 0 .root [], .assign 0 true 1 0, .var 1 (.solvable 10), .var 2 (.solvable 11),
     .clause 1 (.requires 0 (.single 1)) [[1, 2]], .assign 2 true 2 1] = none := by decide

/-- **The exact model keeps the provider's preference order in its clauses** (no checker in between; every universe meeting the
    provider contract, problem, fuel, solver state, synchronous or asynchronous): after a solve, the positive literals of every
    requires clause of the model — read the way its `decide` and propagation read them — stand, in clause order, for exactly
    the sorted candidates of the requirement's version sets (`sort_candidates` order with the favored candidate first, union
    members in the order the provider lists them). The decision rule "first undecided candidate in clause order" is
    therefore "first undecided candidate in the provider's preference order". -/
theorem clause_order_exact_model (U : Universe) (hU : MDet.WFU U) (P : Problem) (fuel : Nat) (s0 : MDet.S) :
    ∀ c ∈ (MDet.solveRun U P fuel s0).2.clauses.toList, ∀ p r, c.kind = .requires p r →
      ∃ vars : List Nat, MDet.clauseLits (MDet.solveRun U P fuel s0).2 c = (p, false) :: vars.map (fun v => (v, true)) ∧
        vars.filterMap (Abs.oSolv (MDet.solveRun U P fuel s0).2.origins) = reqSorted U r :=
  MDet.requires_clause_order (MDet.solveRun_tinv U hU P fuel s0)

/-- **The cached candidate variables of a requirement are exactly its candidates** (exact model of
    `requirement_to_sorted_candidates`, every universe meeting the provider contract, problem, fuel and solver state,
    sync and async): after any solve, the variables cached for a requirement stand for candidates of that requirement
    only, and every candidate of the requirement has a variable among them — `decide()` never misses a candidate and
    never tries a solvable that does not match. (`clause_order_exact_model` adds that they come in preference order.) -/
theorem requirement_cache_exact (U : Universe) (hU : MDet.WFU U) (P : Problem) (fuel : Nat) (s0 : MDet.S) (r : Req)
    (vsVars : List (List Nat)) (h : (MDet.solveRun U P fuel s0).2.reqCands.lookup r = some vsVars) :
    (∀ v ∈ vsVars.flatten, ∃ c, Abs.oSolv (MDet.solveRun U P fuel s0).2.origins v = some c ∧ c ∈ U.reqCands r) ∧
    (∀ c ∈ U.reqCands r, ∃ v ∈ vsVars.flatten, Abs.oSolv (MDet.solveRun U P fuel s0).2.origins v = some c) :=
  (MDet.solveRun_tinv U hU P fuel s0).extra.cache r vsVars h

end Resolvo.C07
