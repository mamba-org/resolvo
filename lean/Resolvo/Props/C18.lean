import Resolvo.Data.ArenaProofs
/-!
# C18 — Pool interning is stable: equal values share ids and references stay valid

Statements about the model of `Arena` / `Pool` (`Data/Arena.lean`), for every interleaving of
`intern_*` / `resolve_*` / `lookup` calls of any length and every positive chunk size.
An element's *address* in the model is `(id / chunkSize, id % chunkSize)`; that two equal model
addresses mean the same machine address relies on `Vec::with_capacity(CHUNK)` not reallocating
below capacity (`capacity_never_exceeded`).
-/
namespace Resolvo.C18
open Resolvo.Arena Resolvo.Pool

section Arena
variable {α : Type}

/-- (b) ids are dense: the k-th `alloc` returns k -/
theorem alloc_dense (a : A α) (x : α) : (alloc a x).2 = a.len ∧ (alloc a x).1.len = a.len + 1 := ⟨rfl, rfl⟩

/-- (c) address stability: a later `alloc` changes no existing address and no stored value -/
theorem addr_stable (a : A α) (hi : Inv a) (x : α) (id : Nat) (v : α)
    (h : at? a (id / a.chunkSize) (id % a.chunkSize) = some v) (hid : id < a.len) :
    at? (alloc a x).1 (id / a.chunkSize) (id % a.chunkSize) = some v := by
  rw [at?_alloc a hi, if_neg (fun hc => Nat.ne_of_lt hid (Nat.ext_div_mod hc.1 hc.2)), h]

theorem resolve_stable (a : A α) (hi : Inv a) (x : α) (id : Nat) (v : α) (h : get? a id = some v) :
    get? (alloc a x).1 id = some v := by
  rw [get?_alloc a hi, if_neg (Nat.ne_of_lt (get?_lt a id v h)), h]

theorem resolve_new (a : A α) (hi : Inv a) (x : α) : get? (alloc a x).1 (alloc a x).2 = some x := by
  rw [get?_alloc a hi, alloc_id, if_pos rfl]

theorem capacity_never_exceeded (a : A α) (hi : Inv a) (k : Nat) (ch : List α) (h : a.chunks[k]? = some ch) :
    ch.length ≤ a.chunkSize := by
  rcases Nat.lt_trichotomy k (a.len / a.chunkSize) with hk | hk | hk
  · rw [hi.full k ch hk h]; exact Nat.le_refl _
  · subst hk; rw [hi.cur ch h]; exact Nat.le_of_lt (Nat.mod_lt _ hi.pos)
  · rw [hi.later k ch hk h]; exact Nat.zero_le _

theorem reachable_inv (c n : Nat) (hc : 0 < c) (xs : List α) :
    Inv (xs.foldl (fun a x => (alloc a x).1) (withCapacity c n : A α)) :=
  inv_foldl_alloc _ (inv_withCapacity c n hc) xs
end Arena

section Table
variable {α : Type} [BEq α] [LawfulBEq α]

/-- the interning table represents a partial bijection between values and dense ids -/
structure TInv (t : Tbl α) : Prop where
  arena : Inv t.arena
  iff : ∀ x id, t.ids.lookup x = some id ↔ get? t.arena id = some x

theorem tinv_new (c : Nat) (hc : 0 < c) : TInv (Tbl.new c : Tbl α) := by
  refine ⟨inv_withCapacity c 1 hc, ?_⟩
  simp [Tbl.new, get?, withCapacity]

/-- (d) `lookup` agrees with `intern` -/
theorem lookup_after_intern (t : Tbl α) (x : α) : (t.intern x).1.lookup x = some (t.intern x).2 := by
  unfold Tbl.intern Tbl.lookup
  cases hl : t.ids.lookup x with
  | some id => exact hl
  | none => exact List.lookup_cons_self

theorem tinv_intern (t : Tbl α) (hi : TInv t) (x : α) : TInv (t.intern x).1 := by
  unfold Tbl.intern
  cases hl : t.ids.lookup x with
  | some id => exact hi
  | none =>
    refine ⟨inv_alloc t.arena hi.arena x, fun y id => ?_⟩
    simp only [List.lookup_cons, get?_alloc _ hi.arena, alloc_id]
    by_cases hyx : y = x
    · -- `y = x` was not interned before, so the only id it can have is the new one
      subst hyx
      have hold : get? t.arena id ≠ some y := fun h => by
        rw [← hi.iff, hl] at h
        cases h
      by_cases hid : id = t.arena.len
      · simp [hid]
      · simp [hid, hold, Ne.symm hid]
    · -- another value: its id is an old one, and old ids are below `len`
      rw [beq_false_of_ne hyx, hi.iff]
      by_cases hid : id = t.arena.len
      · rw [if_pos hid, hid]
        exact ⟨fun h => absurd (get?_lt _ _ _ h) (Nat.lt_irrefl _),
          fun h => absurd (Option.some.inj h).symm hyx⟩
      · rw [if_neg hid]

/-- (a) interning the same value twice returns the same id (and changes nothing the second time) -/
theorem intern_twice (t : Tbl α) (hi : TInv t) (x : α) :
    ((t.intern x).1.intern x) = ((t.intern x).1, (t.intern x).2) :=
  intern_of_lookup (lookup_after_intern t x)

/-- (a) `resolve (intern v) = v` -/
theorem resolve_intern (t : Tbl α) (hi : TInv t) (x : α) :
    (t.intern x).1.resolve (t.intern x).2 = some x :=
  ((tinv_intern t hi x).iff x _).mp (lookup_after_intern t x)

/-- (a) different values never share an id -/
theorem ids_injective (t : Tbl α) (hi : TInv t) (x y : α) (id : Nat)
    (hx : t.lookup x = some id) (hy : t.lookup y = some id) : x = y := by
  have h1 := (hi.iff x id).mp hx
  have h2 := (hi.iff y id).mp hy
  rw [h1] at h2; exact Option.some.inj h2

/-- earlier ids keep resolving to the same value after any later interning -/
theorem table_resolve_stable (t : Tbl α) (hi : TInv t) (x : α) (id : Nat) (v : α)
    (h : t.resolve id = some v) : (t.intern x).1.resolve id = some v := by
  unfold Tbl.intern Tbl.resolve at *
  cases hl : t.ids.lookup x with
  | some id' => exact h
  | none => exact resolve_stable t.arena hi.arena x id v h

end Table

/-! Non-vacuity: interning across a chunk boundary (chunk size 2). -/
example : ((((Tbl.new 2 : Tbl Nat).intern 10).1.intern 20).1.intern 30).2 = 2 := by decide
example : ((((Tbl.new 2 : Tbl Nat).intern 10).1.intern 20).1.intern 10).2 = 0 := by decide

end Resolvo.C18
