import Resolvo.Enc.AtMostOneProofs
/-!
# C15 — one solvable per package, for any number of candidates and any discovery order

Tracker-level statements (part (a)/(c) of plan §6 C15). `vs` is the sequence of
`add` calls in *any* order, with arbitrary repetitions — i.e. any order and
grouping in which version sets reveal a package's candidates. No bound on its
length. `first` is the value of the variable counter when the tracker is
created; helper variables are drawn from it.
-/
namespace Resolvo.C15
open Resolvo.Amo

/-- The clauses the tracker has emitted after the calls `add v` for `v` in `vs`. -/
def clauses (first : Nat) (vs : List Nat) : List FClause := (addAll { next := first } vs).out

/-- **Soundness.** Whatever the helper variables are set to, an assignment that satisfies
    every emitted clause makes at most one of the registered candidates true. -/
theorem amo_sound (first : Nat) (vs : List Nat) (σ : Nat → Bool)
    (hsat : ∀ c ∈ clauses first vs, sat σ c = true)
    (x y : Nat) (hx : x ∈ vs) (hy : y ∈ vs) (sx : σ x = true) (sy : σ y = true) : x = y :=
  inv_sound _ (addAll_inv _ vs (inv_init first)) σ hsat (mem_vars_init.mpr hx) (mem_vars_init.mpr hy) sx sy

/-- **Completeness.** If the candidates' variables are distinct from the helper variables
    (in the solver both come from one counter), then for each registered candidate `x` there
    is a setting of the helper variables — all other variables as in `base` — under which all
    emitted clauses hold, `x` is true and every other registered candidate is false. -/
theorem amo_complete_one (first : Nat) (vs : List Nat) (hlt : ∀ v ∈ vs, v < first)
    (base : Nat → Bool) (x : Nat) (hx : x ∈ vs) :
    ∃ σ, (∀ c ∈ clauses first vs, sat σ c = true) ∧ σ x = true ∧
      (∀ y ∈ vs, y ≠ x → σ y = false) ∧ (∀ v, v < first → v ∉ vs → σ v = base v) := by
  have hi := addAll_inv _ vs (inv_init first)
  have hge : ∀ h ∈ (addAll { next := first } vs).t.helpers, first ≤ h :=
    fun h hh => ((addAll_ext _ vs).newHelpers h hh).resolve_left (by simp)
  have hdisj : ∀ h ∈ (addAll { next := first } vs).t.helpers, h ∉ (addAll { next := first } vs).t.vars :=
    fun h hh hv => Nat.lt_irrefl _ (Nat.lt_of_lt_of_le (hlt h (mem_vars_init.mp hv)) (hge h hh))
  obtain ⟨i0, hi0⟩ := List.getElem?_of_mem (mem_vars_init.mpr hx)
  obtain ⟨h1, h2, h3, h4⟩ := inv_complete_some _ hi hdisj hi0 base
  exact ⟨_, h1, h2, fun y hy => h3 y (mem_vars_init.mpr hy), fun v hv hnv =>
    h4 v (fun hm => hnv (mem_vars_init.mp hm)) fun hm => Nat.lt_irrefl _ (Nat.lt_of_lt_of_le hv (hge v hm))⟩

/-- … and a setting under which none of them is true. -/
theorem amo_complete_none (first : Nat) (vs : List Nat) (base : Nat → Bool) :
    ∃ σ, (∀ c ∈ clauses first vs, sat σ c = true) ∧ (∀ y ∈ vs, σ y = false) := by
  have hi := addAll_inv _ vs (inv_init first)
  obtain ⟨σ, h1, h2, _⟩ := inv_complete_none _ hi base
  exact ⟨σ, h1, fun y hy => h2 y (mem_vars_init.mpr hy)⟩

/-- **Stability.** A later `add` never changes the index of an earlier candidate, the bit
    of an earlier helper, or an earlier clause (it only appends). -/
theorem amo_stable (s : St) (v : Nat) :
    (∃ l, (add s v).t.vars = s.t.vars ++ l) ∧ (∃ l, (add s v).t.helpers = s.t.helpers ++ l) ∧
    (∃ l, (add s v).out = s.out ++ l) :=
  have e := add_ext s v
  ⟨e.vars.imp fun _ => Eq.symm, e.helpers.imp fun _ => Eq.symm, e.out.imp fun _ => Eq.symm⟩

/-- **Threshold arithmetic (c).** When the `while` loop exits, the index the new variable
    receives (`variables.len()`) fits in the helper bits: `len ≤ 2^helpers − 1`, including
    the first step where `(1 << 0) − 1 = 0`. -/
theorem threshold (s : St) :
    (growLoop (s.t.vars.length + 1) s).t.vars.length ≤
      2 ^ (growLoop (s.t.vars.length + 1) s).t.helpers.length - 1 :=
  growLoop_enough _ s (by omega)

/-! Non-vacuity: five candidates revealed as 3, 1, 4, 1, 5, 9 (one repeat): the clause set is
    non-empty, and the hypotheses of the theorems are met (`first = 100`). -/
example : (clauses 100 [3, 1, 4, 1, 5, 9]).length = 15 := by decide
example : ∀ v ∈ [3, 1, 4, 1, 5, 9], v < 100 := by decide

end Resolvo.C15
