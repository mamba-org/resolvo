import Resolvo.Supported
import Resolvo.MDet.Undo
/-!
# C05 — solutions contain no extraneous solvables

`Supported` is the property's statement: reachable from the root requirements (or an accepted
soft requirement) through requirement edges whose satisfying candidate is itself selected.
Proved (`Supported.lean`): every solvable the executable closure `supportClosure` contains is `Supported`
(soundness of the oracle's positive answers). Proved here: what `undo_until` leaves of the decision stack.
-/
namespace Resolvo.C05
open Resolvo

/-- **`undo_until(level)` drops every assignment above the backjump level** (exact model of
    `decision_tracker.rs:66-91`, every solver state and level, no bound on the stack): when it returns, the decision stack
    is a suffix of the old one — the newest entries are gone, nothing else changed place — and it is empty or its newest
    entry was assigned at a level ≤ `level`; so no decision of an abandoned branch survives a backjump on top of the trail. -/
theorem undo_until_drops_above_level (level : Nat) (s s' : MDet.S)
    (h : MDet.runM (MDet.undoUntil level) s = (.ok (), s')) :
    (∃ pre, s.stack = pre ++ s'.stack) ∧
    (match s'.stack with | [] => True | d :: _ => MDet.levelOf s' d.var ≤ level) :=
  MDet.undoUntil_post level s s' h

end Resolvo.C05
