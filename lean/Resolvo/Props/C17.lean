import Resolvo.Data.CowVectorProofs
import Resolvo.ModelFacts
/-!
# C17 — the C++ binding computes what the Rust API computes, memory-safely

What is proved here is small and stated as such:
* `layout_agree`: Rust's `compute_inner_layout::<T>(cap)` (`Layout::new::<VectorHeader>().extend(Layout::array::<T>(cap))`)
  and C++'s `sizeof(Header) + cap * sizeof(T)`, `alignof(Header)` denote the same size, alignment and
  data offset whenever `alignof(T)` divides the header size and does not exceed the header
  alignment (the C++ `static_assert` plus the three-word header) — for every capacity;
* `ModelFacts.vector_header_agrees`: the Rust and C++ header structs list the same fields in the same
  order (regenerated from both sources on every run);
* `frame`: at the spec level an operation changes only the handles it names.
* `cow_refines`: the refcounted heap model of the header's algorithms (`Data/CowVector.lean`: share on copy,
  `detach` before a write, release-then-acquire copy assignment, swap on move, the uncounted static empty
  block) **refines the value-semantics spec for every sequence of operations on existing handles**, keeps
  the reference-count invariant, never touches a freed block and never leaks one (`Data/CowVectorProofs.lean`,
  by composing the primitive steps under an invariant with ghost references for temporaries). The driver
  additionally evaluates `wf` (the Boolean form of the invariant; no theorem relates it to `Inv`) and `abs` on every
  generated sequence.
Everything about real memory (use-after-free, leaks, UB, ABI) is explored with
ASan/UBSan/LeakSanitizer on the real headers; three genuine defects were found and repaired.
-/
namespace Resolvo.C17
open Resolvo.Cow

/-- `Layout::extend`: offset of the second part = first size rounded up to the second alignment -/
def roundUp (x a : Nat) : Nat := (x + a - 1) / a * a

/-- Rust: (size, align, data offset) of `VectorInner<T>` with `cap` elements -/
def layoutRust (hdrSize hdrAlign sizeT alignT cap : Nat) : Nat × Nat × Nat :=
  (roundUp hdrSize alignT + cap * sizeT, Nat.max hdrAlign alignT, roundUp hdrSize alignT)

/-- C++: `sizeof(Header) + cap*sizeof(T)`, `alignof(Header)`, data at `inner + 1` -/
def layoutCpp (hdrSize hdrAlign sizeT cap : Nat) : Nat × Nat × Nat := (hdrSize + cap * sizeT, hdrAlign, hdrSize)

theorem roundUp_of_dvd (x a : Nat) (ha : 0 < a) (h : a ∣ x) : roundUp x a = x := by
  obtain ⟨k, rfl⟩ := h
  unfold roundUp
  rw [Nat.add_sub_assoc ha, Nat.mul_add_div ha, Nat.div_eq_of_lt (Nat.sub_lt ha Nat.one_pos), Nat.add_zero, Nat.mul_comm]

theorem layout_agree (hdrSize hdrAlign sizeT alignT cap : Nat) (ha : 0 < alignT)
    (hdvd : alignT ∣ hdrSize) (hle : alignT ≤ hdrAlign) :
    layoutRust hdrSize hdrAlign sizeT alignT cap = layoutCpp hdrSize hdrAlign sizeT cap := by
  unfold layoutRust layoutCpp
  rw [roundUp_of_dvd hdrSize alignT ha hdvd]
  have : Nat.max hdrAlign alignT = hdrAlign := Nat.max_eq_left hle
  rw [this]

/-- the concrete header: three machine words (24 bytes, alignment 8) and every admissible element alignment -/
example : ∀ a ∈ [1, 2, 4, 8], a ∣ 24 ∧ a ≤ 8 := by decide

theorem get_put_ne (s : Spec) (h k : Nat) (v : List Nat) (hk : k ≠ h) : (s.put h v).get k = s.get k := by
  unfold Spec.get Spec.put
  rw [List.getD_eq_getElem?_getD, List.getD_eq_getElem?_getD, List.getElem?_set_ne (Ne.symm hk)]

/-- spec level: an operation leaves every handle it does not name untouched -/
theorem frame (s : Spec) (op : Op) (k : Nat) (hk : match op with
    | .init h _ | .push h _ | .clear h | .set h _ _ => k ≠ h
    | .copy h _ | .assign h _ => k ≠ h
    | .move h g => k ≠ h ∧ k ≠ g) : (specStep s op).get k = s.get k := by
  cases op with
  | move h g =>
    show (if h == g then s else (s.put h (s.get g)).put g (s.get h)).get k = s.get k
    split
    · rfl
    · rw [get_put_ne _ _ _ _ hk.2, get_put_ne _ _ _ _ hk.1]
  | _ => exact get_put_ne _ _ _ _ hk

/-- the refcounted heap model refines the value-semantics spec: for every number of handles and every
    sequence of operations that name existing handles, the heap reached from the initial heap satisfies the
    copy-on-write invariant, denotes exactly the spec's contents, has touched no freed block, has no handle
    to a freed block and has leaked nothing -/
theorem cow_refines (n : Nat) (ops : List Op) (hv : ∀ op ∈ ops, op.valid n) :
    let hp := ops.foldl heapStep (Heap.init n)
    Inv hp ∧ hp.abs = ops.foldl specStep (List.replicate n []) ∧
      hp.uaf = false ∧ (∀ h, h < hp.handles.length → (hp.block (hp.blockOf h)).freed = false) ∧ hp.leaked = [] := by
  have hlen : (Heap.init n).handles.length = n := List.length_replicate
  have r := run_refines ops (Heap.init n) (inv_init n) (fun op ho => by rw [hlen]; exact hv op ho)
  have s := inv_safe _ r.1
  exact ⟨r.1, by rw [r.2, abs_init], s.1, s.2.1, s.2.2⟩

/-- non-vacuity: a sequence with sharing, self-assignment, push of an own element's value, a write through a
    shared handle and a clear meets the hypothesis, and the two levels compute the same contents -/
example : (∀ op ∈ [Op.init 0 [1, 2], .copy 1 0, .assign 1 1, .push 0 1, .set 1 0 9, .move 2 1, .clear 0], op.valid 3) ∧
    ([Op.init 0 [1, 2], .copy 1 0, .assign 1 1, .push 0 1, .set 1 0 9, .move 2 1, .clear 0].foldl heapStep (Heap.init 3)).abs
      = [[], [], [9, 2]] := by decide

end Resolvo.C17
