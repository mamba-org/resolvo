import Resolvo.Render
import Resolvo.Abs.Sound
import Resolvo.CacheProofs
import Resolvo.Basics
/-!
# Every edge of the conflict graph states a true fact of the provider's data (C03 (a))

`Render.buildGraph` is the exact model of `Conflict::graph`. Here: if the clauses it is built from have true
provenance (`Abs.Prov`, which every clause of an accepted history has), then every edge of the graph is true in the
sense of C03: a requires edge's requirement belongs to its source and its target is one of that requirement's
candidates (or the unresolved node, if there are none); constrains, lock and exclusion edges point at solvables that
really are non-matching, locked out or excluded; forbid edges join solvables of one package.
-/
namespace Resolvo.Render
open Resolvo Resolvo.Graph Resolvo.Abs

/-- the requirements / constrains of the solvable (or root) a node stands for -/
def nodeDeps (U : Universe) (P : Problem) : Node → Option (List Req × List Nat)
  | .root => some (P.reqs, P.constraints)
  | .solv s => match U.deps s with | .known reqs cons => some (reqs, cons) | .unknown _ => none
  | _ => none

/-- C03's notion of a true edge -/
def EdgeTrue (U : Universe) (P : Problem) (src dst : Node) : EKind → Prop
  | .req r => (∃ reqs cons, nodeDeps U P src = some (reqs, cons) ∧ r ∈ reqs) ∧
      ((∃ c, dst = .solv c ∧ c ∈ U.reqCands r) ∨ (dst = .unresolved ∧ U.reqCands r = []))
  | .constrains vs => (∃ reqs cons, nodeDeps U P src = some (reqs, cons) ∧ vs ∈ cons) ∧ ∃ t, dst = .solv t ∧ t ∈ U.nonMatching vs
  | .locked l => src = .root ∧ ∃ o p, dst = .solv o ∧ U.pkg? (U.nameOf o) = some p ∧ p.locked = some l ∧ o ≠ l
  | .excluded => ∃ s reason, src = .solv s ∧ dst = .excl reason ∧
      (U.deps s = .unknown reason ∨ ∃ p, U.pkg? (U.nameOf s) = some p ∧ (s, reason) ∈ p.excluded)
  | .forbid => ∃ a b, src = .solv a ∧ dst = .solv b ∧ U.nameOf a = U.nameOf b

/-- index `i` of `g` holds node `n` (a valid index, not the default of `RG.node`) -/
def RG.At (g : RG) (i : Nat) (n : Node) : Prop := g.nodes[i]? = some n

def RG.Ext (g g' : RG) : Prop := ∀ i n, g.At i n → g'.At i n

theorem RG.At.mono {g g' : RG} {i : Nat} {n : Node} (h : g.At i n) (e : g.Ext g') : g'.At i n := e i n h

theorem RG.At.lt {g : RG} {i : Nat} {n : Node} (h : g.At i n) : i < g.nodes.size :=
  (Array.getElem?_eq_some_iff.mp h).1

theorem RG.At.node {g : RG} {i : Nat} {n : Node} (h : g.At i n) : g.node i = n := by
  simp [RG.node, Array.getD_eq_getD_getElem?, show g.nodes[i]? = some n from h]

theorem addNode_ext (g : RG) (n : Node) : g.Ext (addNode g n).1 := by
  intro i m h
  unfold addNode
  split
  · exact h
  · exact (Array.getElem?_push.trans (if_neg (Nat.ne_of_lt h.lt))).trans h

theorem addNode_at (g : RG) (n : Node) : (addNode g n).1.At (addNode g n).2 n := by
  unfold addNode
  split
  · next i hi =>
    obtain ⟨hlt, hn, _⟩ := List.idxOf?_eq_some_iff.mp hi
    exact Array.getElem?_eq_some_iff.mpr ⟨by simpa using hlt, by simpa using hn⟩
  · exact Array.getElem?_push_size

theorem addNode_edges (g : RG) (n : Node) : (addNode g n).1.edges = g.edges := by
  unfold addNode
  split <;> rfl

/-- the graph under construction: the two fixed nodes, every edge true between the nodes its indices hold, and `last`
    (per package name, the index of the newest node of that package: the bookkeeping of the forbid clauses) points at
    solvable nodes of that package -/
structure GInv (U : Universe) (P : Problem) (g : RG) (last : List (Nat × Nat)) : Prop where
  n0 : g.At 0 .root
  n1 : g.At 1 .unresolved
  edges : ∀ e ∈ g.edges.toList, ∃ a b, g.At e.1 a ∧ g.At e.2.1 b ∧ EdgeTrue U P a b e.2.2
  last : ∀ name idx, (name, idx) ∈ last → ∃ a, g.At idx (.solv a) ∧ U.nameOf a = name

variable {U : Universe} {P : Problem} {g g' : RG} {last : List (Nat × Nat)}

theorem GInv.mono (h : GInv U P g last) (hn : g.Ext g') (he : g'.edges = g.edges) : GInv U P g' last where
  n0 := h.n0.mono hn
  n1 := h.n1.mono hn
  edges e hm := by
    obtain ⟨a, b, ha, hb, ht⟩ := h.edges e (he ▸ hm)
    exact ⟨a, b, ha.mono hn, hb.mono hn, ht⟩
  last name idx hm := by
    obtain ⟨a, ha, hname⟩ := h.last name idx hm
    exact ⟨a, ha.mono hn, hname⟩

theorem GInv.addNode (h : GInv U P g last) (n : Node) : GInv U P (addNode g n).1 last :=
  h.mono (addNode_ext g n) (addNode_edges g n)

/-- `addEdge` touches no node, so `At` facts about `g` serve for `addEdge g ..` as they are -/
theorem GInv.addEdge {s d : Nat} {a b : Node} {k : EKind} (h : GInv U P g last) (hs : g.At s a) (hd : g.At d b)
    (ht : EdgeTrue U P a b k) : GInv U P (addEdge g s d k) last where
  n0 := h.n0
  n1 := h.n1
  edges e hm := by
    rcases List.mem_append.mp (Array.toList_push ▸ hm) with hm | hm
    · exact h.edges e hm
    · cases List.mem_singleton.mp hm
      exact ⟨a, b, hs, hd, ht⟩
  last := h.last

theorem ginv_addNodesEdge {a b : Node} {k : EKind} (h : GInv U P g last) (ht : EdgeTrue U P a b k) :
    GInv U P (addEdge (addNode (addNode g a).1 b).1 (addNode g a).2 (addNode (addNode g a).1 b).2 k) last :=
  ((h.addNode a).addNode b).addEdge ((addNode_at g a).mono (addNode_ext _ b)) (addNode_at _ b) ht

/-- the bookkeeping of a forbid clause: the newest node of a package replaces the older entries -/
theorem GInv.setLast {i s : Nat} {keep : Nat × Nat → Bool} (h : GInv U P g last) (hi : g.At i (.solv s)) :
    GInv U P g ((U.nameOf s, i) :: last.filter keep) where
  n0 := h.n0
  n1 := h.n1
  edges := h.edges
  last name idx hm := by
    rcases List.mem_cons.mp hm with hm | hm
    · cases hm; exact ⟨s, hi, rfl⟩
    · exact h.last name idx (List.mem_filter.mp hm).1

theorem ginv_init (U : Universe) (P : Problem) : GInv U P { nodes := #[.root, .unresolved] } [] :=
  ⟨rfl, rfl, fun _ h => (nomatch h), fun _ _ h => (nomatch h)⟩

theorem reqSorted_eq_nil (U : Universe) (r : Req) : reqSorted U r = [] ↔ U.reqCands r = [] := by
  simp [List.eq_nil_iff_forall_not_mem, mem_reqSorted]

theorem nodeOfOrigin_of_oSolv {org : Org} {v s : Nat} (h : oSolv org v = some s) : nodeOfOrigin org v = .solv s := by
  simp [nodeOfOrigin, oSolv_eq_some.mp h]

theorem solvOfOrigin_of_oSolv {org : Org} {v s : Nat} (h : oSolv org v = some s) : solvOfOrigin org v = s := by
  simp [solvOfOrigin, oSolv_eq_some.mp h]

theorem nodeDeps_of_parent {org : Org} {p : Nat} {d : List Req × List Nat} (h : oParentDeps U P org p = some d) :
    nodeDeps U P (nodeOfOrigin org p) = some d := by
  unfold oParentDeps at h
  unfold nodeOfOrigin
  split at h
  · next heq => rw [heq]; exact h
  · next heq => rw [heq]; exact h
  · cases h

theorem ginv_addCands {r : Req} {src : Node} {pn : Nat} {cands : List Nat} (h : GInv U P g last) (hp : g.At pn src)
    (hsrc : ∃ reqs cons, nodeDeps U P src = some (reqs, cons) ∧ r ∈ reqs) (hc : ∀ c ∈ cands, c ∈ U.reqCands r) :
    GInv U P (cands.foldl (fun g c => let (g, cn) := addNode g (.solv c); addEdge g pn cn (.req r)) g) last := by
  refine (List.foldlRecOn cands _ (motive := fun g => GInv U P g last ∧ g.At pn src) ⟨h, hp⟩ ?_).1
  intro g ⟨h, hp⟩ c hm
  have hp' := hp.mono (addNode_ext g (.solv c))
  exact ⟨(h.addNode _).addEdge hp' (addNode_at _ _) ⟨hsrc, .inl ⟨c, rfl, hc c hm⟩⟩, hp'⟩

theorem ginv_addClause (org : Org) (k : Kind) (hp : KindTrue U P org k) (h : GInv U P g last) :
    GInv U P (addClause U org (g, last) k).1 (addClause U org (g, last) k).2 := by
  unfold addClause
  cases k with
  | root => exact h
  | learnt i => exact h
  | excluded v reason =>
    obtain ⟨s, hs, hfact⟩ := hp
    simp only [nodeOfOrigin_of_oSolv hs]
    exact ginv_addNodesEdge h ⟨s, reason, rfl, rfl, hfact⟩
  | requires p r =>
    obtain ⟨reqs, cons, hd, hr⟩ := hp
    have hsrc : ∃ reqs cons, nodeDeps U P (nodeOfOrigin org p) = some (reqs, cons) ∧ r ∈ reqs :=
      ⟨reqs, cons, nodeDeps_of_parent hd, hr⟩
    dsimp only
    split
    · next hemp =>
      have hnil := (reqSorted_eq_nil U r).mp (List.isEmpty_iff.mp hemp)
      exact (h.addNode _).addEdge (addNode_at g _) (h.addNode _).n1 ⟨hsrc, .inr ⟨rfl, hnil⟩⟩
    · exact ginv_addCands (h.addNode _) (addNode_at g _) hsrc (fun c => (mem_reqSorted U r c).mp)
  | lock l o =>
    obtain ⟨ls, os, pk, hl, ho, hpk, hlock, hne⟩ := hp
    simp only [nodeOfOrigin_of_oSolv ho, solvOfOrigin_of_oSolv hl]
    exact (h.addNode _).addEdge (h.addNode _).n0 (addNode_at g _) ⟨rfl, os, pk, rfl, hpk, hlock, hne⟩
  | forbid a _ _ name =>
    obtain ⟨s, hs, rfl⟩ := hp
    simp only [nodeOfOrigin_of_oSolv hs]
    cases hprev : last.lookup (U.nameOf s) with
    | none => exact (h.addNode _).setLast (addNode_at g _)
    | some pn =>
      obtain ⟨b, hb, hname⟩ := (h.addNode (.solv s)).last _ pn (Resolvo.mem_of_lookup _ _ _ hprev)
      exact ((h.addNode _).setLast (addNode_at g _)).addEdge hb (addNode_at g _) ⟨b, s, rfl, rfl, hname⟩
  | constrains p c vs =>
    obtain ⟨⟨reqs, cons, hd, hvs⟩, t, ht, hnm⟩ := hp
    simp only [nodeOfOrigin_of_oSolv ht]
    exact ginv_addNodesEdge h ⟨⟨reqs, cons, nodeDeps_of_parent hd, hvs⟩, t, rfl, hnm⟩

theorem dst_ne_of_inc_isEmpty {n : Nat} (h : (g.inc n).isEmpty) : ∀ e ∈ g.edges.toList, e.2.1 ≠ n := by
  intro e he hn
  obtain ⟨i, hi, rfl⟩ := Array.getElem_of_mem (Array.mem_def.mpr he)
  have : i ∈ g.inc n := by simpa [RG.inc, RG.dst, hi] using hn
  rw [List.isEmpty_iff.mp h] at this
  cases this

/-- removing the unused unresolved node renames an index but changes no edge (as a relation between nodes) -/
theorem nodeEdges_dropUnresolved (h2 : 1 < g.nodes.size)
    (hv : ∀ e ∈ g.edges.toList, e.1 < g.nodes.size ∧ e.2.1 < g.nodes.size) (hs : ∀ e ∈ g.edges.toList, e.1 ≠ 1) :
    nodeEdges (dropUnresolved g) = nodeEdges g := by
  unfold dropUnresolved
  by_cases hinc : (g.inc 1).isEmpty
  · have hd := dst_ne_of_inc_isEmpty hinc
    rw [if_pos hinc]
    by_cases hlast : g.nodes.size - 1 = 1
    · -- only root and unresolved exist, and every endpoint is 0
      rw [if_pos (beq_iff_eq.mpr hlast)]
      apply List.map_congr_left
      intro e he
      obtain ⟨hv1, hv2⟩ := hv e he
      have hs1 := hs e he
      have hd1 := hd e he
      simp only [RG.node]
      rw [getD_pop _ _ (by omega), getD_pop _ _ (by omega)]
    · have hl : 1 < g.nodes.size - 1 := by omega
      rw [if_neg (mt beq_iff_eq.mp hlast)]
      unfold nodeEdges
      rw [Array.toList_map, List.map_map]
      apply List.map_congr_left
      intro e he
      simp only [RG.node, Function.comp]
      rw [getD_swapRemove _ _ (hv e he).1 (hs e he) hl, getD_swapRemove _ _ (hv e he).2 (hd e he) hl]
  · rw [if_neg hinc]
    rfl

theorem not_edgeTrue_unresolved (b : Node) (k : EKind) : ¬ EdgeTrue U P .unresolved b k := by
  cases k <;> simp [EdgeTrue, nodeDeps]

theorem GInv.src_ne_one (h : GInv U P g last) : ∀ e ∈ g.edges.toList, e.1 ≠ 1 := by
  intro e he h1
  obtain ⟨a, b, ha, _, ht⟩ := h.edges e he
  cases (h1 ▸ ha).symm.trans h.n1
  exact not_edgeTrue_unresolved _ _ ht

/-- the invariant, read through `RG.node` -/
theorem GInv.edge_true (h : GInv U P g last) : ∀ e ∈ g.edges.toList,
    (e.1 < g.nodes.size ∧ e.2.1 < g.nodes.size) ∧ EdgeTrue U P (g.node e.1) (g.node e.2.1) e.2.2 := by
  intro e he
  obtain ⟨a, b, ha, hb, ht⟩ := h.edges e he
  exact ⟨⟨ha.lt, hb.lt⟩, ha.node ▸ hb.node ▸ ht⟩

theorem dropUnresolved_edges (h : GInv U P g last) : ∀ x ∈ nodeEdges (dropUnresolved g), EdgeTrue U P x.1 x.2.1 x.2.2 := by
  rw [nodeEdges_dropUnresolved h.n1.lt (fun e he => (h.edge_true e he).1) h.src_ne_one]
  intro x hx
  obtain ⟨e, he, rfl⟩ := List.mem_map.mp hx
  exact (h.edge_true e he).2

/-- **the graph built from clause kinds that state true facts has only true edges** -/
theorem buildGraph_kinds_true (U : Universe) (P : Problem) (org : Org) (ks : List Kind) (hk : ∀ k ∈ ks, KindTrue U P org k) :
    ∀ x ∈ nodeEdges (buildGraph U org ks), EdgeTrue U P x.1 x.2.1 x.2.2 :=
  dropUnresolved_edges <| List.foldlRecOn ks (addClause U org) (motive := fun acc => GInv U P acc.1 acc.2) (ginv_init U P)
    fun _ h k hm => ginv_addClause org k (hk k hm) h

/-- **C03 (a) for the exact model of `Conflict::graph`**: whatever clauses of an accepted history are blamed, every edge
    of the conflict graph built from them states a true fact of the provider's data. -/
theorem buildGraph_edges_true (U : Universe) (P : Problem) (st : St) (hs : SInv U P st) (ids : List Nat)
    (hids : ∀ id ∈ ids, id < st.db.length) :
    ∀ x ∈ nodeEdges (buildGraph U st.origins (ids.map (fun id => (st.db.getD id default).kind))), EdgeTrue U P x.1 x.2.1 x.2.2 := by
  apply buildGraph_kinds_true
  intro k hk
  obtain ⟨id, hid, rfl⟩ := List.mem_map.mp hk
  apply prov_kindTrue
  apply hs.prov
  have hlt := hids id hid
  rw [List.getD_eq_getElem?_getD, List.getElem?_eq_getElem hlt]
  exact List.getElem_mem hlt

end Resolvo.Render
