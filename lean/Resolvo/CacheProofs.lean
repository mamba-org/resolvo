import Resolvo.Cache
/-! Lemmas about the `SolverCache` model: the sort and the favored rotation permute their input (so membership and
length are those of the input), the sort sorts, and the rotation is `pre ++ f :: post ↦ f :: pre ++ post`. -/
namespace Resolvo

theorem insertByRank_perm (U : Universe) (x : Nat) (l : List Nat) : (insertByRank U x l).Perm (x :: l) := by
  induction l with
  | nil => exact .refl _
  | cons z zs ih =>
    unfold insertByRank
    split
    · exact .refl _
    · exact (ih.cons z).trans (.swap x z zs)

theorem rankSort_perm (U : Universe) (l : List Nat) : (rankSort U l).Perm l := by
  induction l with
  | nil => exact .refl _
  | cons x xs ih => exact (insertByRank_perm U x _).trans (ih.cons x)

theorem mem_rankSort (U : Universe) (y : Nat) (l : List Nat) : y ∈ rankSort U l ↔ y ∈ l := (rankSort_perm U l).mem_iff

theorem length_rankSort (U : Universe) (l : List Nat) : (rankSort U l).length = l.length := (rankSort_perm U l).length_eq

/-- sortedness of the provider's sort: ranks are non-decreasing -/
def RankSorted (U : Universe) (l : List Nat) : Prop := l.Pairwise (fun a b => U.rank a ≤ U.rank b)

theorem insertByRank_sorted (U : Universe) (x : Nat) (l : List Nat) (h : RankSorted U l) :
    RankSorted U (insertByRank U x l) := by
  induction l with
  | nil => simp [insertByRank, RankSorted]
  | cons z zs ih =>
    obtain ⟨hz, hzs⟩ := List.pairwise_cons.mp h
    unfold insertByRank
    split
    · next hle =>
      refine List.pairwise_cons.mpr ⟨fun b hb => ?_, h⟩
      rcases List.mem_cons.mp hb with rfl | hb
      · exact hle
      · exact Nat.le_trans hle (hz b hb)
    · next hnle =>
      refine List.pairwise_cons.mpr ⟨fun b hb => ?_, ih hzs⟩
      rcases List.mem_cons.mp ((insertByRank_perm U x zs).mem_iff.mp hb) with rfl | hb
      · omega
      · exact hz b hb

theorem rankSort_sorted (U : Universe) (l : List Nat) : RankSorted U (rankSort U l) := by
  induction l with
  | nil => exact .nil
  | cons x xs ih => exact insertByRank_sorted U x _ ih

theorem splitAtFirst_append (f : Nat) (pre post : List Nat) (hpre : f ∉ pre) :
    splitAtFirst f (pre ++ f :: post) = some (pre, post) := by
  induction pre with
  | nil => simp [splitAtFirst]
  | cons p ps ih =>
    have hp : (p == f) = false := by simpa using fun e => hpre (by simp [e])
    simp only [List.cons_append, splitAtFirst, hp, ih fun h => hpre (List.mem_cons_of_mem _ h)]
    rfl

theorem splitAtFirst_not_mem (f : Nat) (l : List Nat) (h : f ∉ l) : splitAtFirst f l = none := by
  induction l with
  | nil => rfl
  | cons x xs ih =>
    have hx : (x == f) = false := by simpa using fun e => h (by simp [e])
    simp only [splitAtFirst, hx, ih fun hm => h (List.mem_cons_of_mem _ hm)]
    rfl

theorem favoredFirst_split (f : Nat) (pre post : List Nat) (hpre : f ∉ pre) :
    favoredFirst (some f) (pre ++ f :: post) = f :: pre ++ post := by
  unfold favoredFirst
  simp only [splitAtFirst_append f pre post hpre]

theorem favoredFirst_not_mem (f : Nat) (l : List Nat) (h : f ∉ l) : favoredFirst (some f) l = l := by
  unfold favoredFirst
  simp only [splitAtFirst_not_mem f l h]

theorem favoredFirst_none (l : List Nat) : favoredFirst none l = l := rfl

theorem favoredFirst_perm (fav : Option Nat) (l : List Nat) : (favoredFirst fav l).Perm l := by
  cases fav with
  | none => exact .refl _
  | some f =>
    by_cases hf : f ∈ l
    · obtain ⟨pre, post, rfl, hpre⟩ := List.eq_append_cons_of_mem hf
      rw [favoredFirst_split f pre post hpre]
      exact List.perm_middle.symm
    · rw [favoredFirst_not_mem f l hf]

theorem mem_favoredFirst (fav : Option Nat) (l : List Nat) (y : Nat) : y ∈ favoredFirst fav l ↔ y ∈ l :=
  (favoredFirst_perm fav l).mem_iff

theorem sortedCands_perm (U : Universe) (vs : Nat) : (sortedCands U vs).Perm (U.candsOf vs) :=
  (favoredFirst_perm _ _).trans (rankSort_perm U _)

theorem mem_sortedCands (U : Universe) (vs c : Nat) : c ∈ sortedCands U vs ↔ c ∈ U.candsOf vs := (sortedCands_perm U vs).mem_iff

theorem mem_reqSorted (U : Universe) (r : Req) (c : Nat) : c ∈ reqSorted U r ↔ c ∈ U.reqCands r := by
  simp only [reqSorted, Universe.reqCands, List.mem_flatMap, mem_sortedCands]

end Resolvo
