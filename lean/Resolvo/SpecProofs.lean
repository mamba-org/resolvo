import Resolvo.Spec
namespace Resolvo
theorem depsMetB_iff (U : Universe) (sel : List Nat) (reqs : List Req) (cons : List Nat) :
    depsMetB U sel reqs cons = true ↔ DepsMet U sel reqs cons := by
  simp only [depsMetB, DepsMet, Bool.and_eq_true, List.all_eq_true, List.any_eq_true, List.contains_iff_mem,
    Bool.not_eq_true', Bool.eq_false_iff, ne_eq]

/-- The Boolean checker decides `Valid`. -/
theorem validB_iff (U : Universe) (P : Problem) (sel exempt : List Nat) :
    validB U P sel exempt = true ↔ Valid U P sel exempt := by
  simp only [validB, Valid, Bool.and_eq_true, depsMetB_iff, List.all_eq_true, and_assoc]
  refine and_congr_right' (and_congr (forall₂_congr fun s _ => ?_) (and_congr (forall₂_congr fun s _ => ?_)
    (forall₂_congr fun s _ => forall₂_congr fun t _ => ?_)))
  · cases U.deps s with
    | known reqs cons => exact (depsMetB_iff U sel reqs cons).trans ⟨fun h => ⟨_, _, rfl, h⟩, fun ⟨_, _, e, h⟩ => by cases e; exact h⟩
    | unknown r => simp
  · simp [Decidable.or_iff_not_imp_left]
  · simp [Decidable.imp_iff_not_or]
end Resolvo
