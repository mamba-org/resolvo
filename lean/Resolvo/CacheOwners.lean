import Resolvo.CacheModel
/-!
# At most one request per package is in flight (`get_or_cache_candidates`, every history)

Invariant of the cache state machine over every sequence of operations: for every package at most one live future has sent
the `get_candidates` request (is an *owner*); all other live futures for the package wait for it.
-/
namespace Resolvo.CacheM

def owners (n : Nat) (slots : List (Nat × Slot)) : Nat := slots.countP (fun p => p.2.isOwnerOf n)

def OwnerUnique (st : St) : Prop := ∀ n, owners n st.slots ≤ 1

theorem owners_zero_of_marker {st : St} {n : Nat} (h : ¬ st.marker n = true) : owners n st.slots = 0 := by
  unfold owners
  rw [List.countP_eq_zero]
  intro p hp hq
  exact h (List.any_eq_true.mpr ⟨p, hp, hq⟩)

/-! The slot list changes in four ways only: futures are removed, `notify` and `openGate` flip a flag, a waiter or an
owner is appended. None but the last adds an owner, and an owner is appended only while the marker is clear. -/

theorem owners_filter_le (n k : Nat) (slots : List (Nat × Slot)) : owners n (slots.filter (·.1 != k)) ≤ owners n slots := by
  unfold owners
  rw [List.countP_filter]
  exact List.countP_mono_left (fun p _ h => by simp only [Bool.and_eq_true] at h; exact h.1)

theorem owners_map (n : Nat) (f : Nat × Slot → Nat × Slot) (hf : ∀ p, (f p).2.isOwnerOf n = p.2.isOwnerOf n)
    (slots : List (Nat × Slot)) : owners n (slots.map f) = owners n slots := by
  unfold owners
  rw [List.countP_map]
  exact congrArg (List.countP · slots) (funext hf)

theorem owners_notify (n m : Nat) (slots : List (Nat × Slot)) : owners n (notify m slots) = owners n slots :=
  owners_map n _ (fun p => by
    split
    · next m' h => split <;> simp [Slot.isOwnerOf, h]
    · rfl) slots

theorem owners_open (n m : Nat) (slots : List (Nat × Slot)) : owners n (openGate m slots) = owners n slots :=
  owners_map n _ (fun p => by
    split
    · next m' h => split <;> simp [Slot.isOwnerOf, h]
    · rfl) slots

theorem OwnerUnique.filter {st : St} (h : OwnerUnique st) (k : Nat) :
    OwnerUnique { st with slots := st.slots.filter (·.1 != k) } :=
  fun m => Nat.le_trans (owners_filter_le m k st.slots) (h m)

theorem OwnerUnique.notify {st : St} (h : OwnerUnique st) (n : Nat) : OwnerUnique { st with slots := notify n st.slots } :=
  fun m => Nat.le_trans (Nat.le_of_eq (owners_notify m n st.slots)) (h m)

theorem OwnerUnique.openGate {st : St} (h : OwnerUnique st) (n : Nat) : OwnerUnique { st with slots := openGate n st.slots } :=
  fun m => Nat.le_trans (Nat.le_of_eq (owners_open m n st.slots)) (h m)

theorem OwnerUnique.of_slots {st st' : St} (h : OwnerUnique st) (e : st'.slots = st.slots) : OwnerUnique st' :=
  fun n => e ▸ h n

theorem owners_append (n : Nat) (slots : List (Nat × Slot)) (x : Nat × Slot) :
    owners n (slots ++ [x]) = owners n slots + (if x.2.isOwnerOf n then 1 else 0) := by
  simp only [owners, List.countP_append, List.countP_singleton]

theorem candEnter_unique (st : St) (n k : Nat) (h : OwnerUnique st) : OwnerUnique (candEnter st n k st.slots).1 := by
  unfold candEnter
  intro m
  split
  · show owners m (st.slots ++ [(k, .waiter n false)]) ≤ 1
    rw [owners_append]; exact h m
  · next hm =>
    -- a second owner of `n` would need the marker of `n` to be set
    show owners m (st.slots ++ [(k, .owner n false)]) ≤ 1
    rw [owners_append]
    by_cases hnm : n = m
    · subst hnm; rw [owners_zero_of_marker hm]; simp [Slot.isOwnerOf]
    · simpa [Slot.isOwnerOf, hnm] using h m

theorem fetchCands_slots (U : Universe) (st : St) (n : Nat) : (fetchCands U st n).slots = st.slots := by
  unfold fetchCands; split <;> rfl
theorem fetchMatching_slots (U : Universe) (st : St) (v : Nat) : (fetchMatching U st v).slots = st.slots := by
  unfold fetchMatching; split
  · rfl
  · exact fetchCands_slots U st _
theorem fetchNonMatching_slots (U : Universe) (st : St) (v : Nat) : (fetchNonMatching U st v).slots = st.slots := by
  unfold fetchNonMatching; split
  · rfl
  · exact fetchCands_slots U st _
theorem fetchDeps_slots (st : St) (s : Nat) : (fetchDeps st s).slots = st.slots := by
  unfold fetchDeps; split <;> rfl
theorem foldl_slots {α : Type} (f : St → α → St) (hf : ∀ st a, (f st a).slots = st.slots) (l : List α) (st : St) :
    (l.foldl f st).slots = st.slots :=
  List.foldlRecOn l f (motive := fun st' => st'.slots = st.slots) rfl fun st' h a _ => (hf st' a).trans h
theorem fetchSortedVs_slots (U : Universe) (peek : Bool) (st : St) (v : Nat) : (fetchSortedVs U peek st v).slots = st.slots := by
  have h := (fetchCands_slots U (fetchMatching U st v) (U.vsName v)).trans (fetchMatching_slots U st v)
  unfold fetchSortedVs; split
  · rfl
  · cases peek
    · exact h
    · exact (foldl_slots fetchDeps fetchDeps_slots _ _).trans h

theorem step_ownerUnique (U : Universe) (peek : Bool) (st : St) (op : Op) (h : OwnerUnique st) :
    OwnerUnique (step U peek st op).1 := by
  cases op with
  | candidates n => exact h.of_slots (fetchCands_slots U st n)
  | matching vs => exact h.of_slots (fetchMatching_slots U st vs)
  | nonMatching vs => exact h.of_slots (fetchNonMatching_slots U st vs)
  | sorted r =>
    cases r with
    | single vs => exact h.of_slots (fetchSortedVs_slots U peek st vs)
    | union u =>
      simp only [step]; split
      · exact h
      · exact h.of_slots (foldl_slots _ (fetchSortedVs_slots U peek) _ st)
  | deps s => exact h.of_slots (fetchDeps_slots st s)
  | available s => exact h
  | depsStart s =>
    simp only [step]; split
    · exact h
    · split
      · exact h
      · exact h.of_slots rfl
  | depsDrop s | depsFinish s =>
    simp only [step]; split
    · exact h.of_slots rfl
    · exact h
  | candStart n k =>
    simp only [step]; split
    · exact h
    · split
      · exact h
      · exact candEnter_unique st n k h
  | candDrop k =>
    simp only [step]; split
    · exact h
    · exact (h.filter k).notify _
    · exact h.filter k
  | candOpen n => exact h.openGate n
  | candPoll k =>
    simp only [step]; split
    · exact h
    · exact h
    · exact ((h.filter k).notify _).of_slots rfl
    · exact h
    · split
      · exact h.filter k
      · exact candEnter_unique _ _ k (h.filter k)

/-- **Every history**: whatever operations are applied to a fresh cache - queries, futures started, polled, answered and
    dropped in any order - at most one `get_candidates` request per package is in flight. -/
theorem run_ownerUnique (U : Universe) (peek : Bool) (ops : List Op) (st : St) (h : OwnerUnique st) :
    OwnerUnique (run U peek st ops).1 :=
  List.foldlRecOn ops _ (motive := fun acc : St × List Ans => OwnerUnique acc.1) h
    fun acc ha op _ => step_ownerUnique U peek acc.1 op ha

theorem init_ownerUnique : OwnerUnique {} := fun _ => Nat.zero_le 1

end Resolvo.CacheM
