import Resolvo.Drv.Parse
import Resolvo.Oracles
import Resolvo.Drv.Trace
import Resolvo.Graph
import Resolvo.MDet.Checked
import Resolvo.MDet.Graph
import Resolvo.Abs.Decide
import Resolvo.Render
import Resolvo.MDet.ModelGraphDef
/-! Driver for the solver families: evaluates the oracles on the implementation's outputs. -/
namespace Resolvo.Drv
open Resolvo

def natList (l : List Nat) : String := " ".intercalate (l.map toString)

/-- Well-formedness of a generated universe (what the provider contract requires). -/
def wfB (U : Universe) : Bool :=
  candsKnownB U &&
  -- the provider contract the truthfulness theorems assume (C03.edges_truthful_exact_model)
  Resolvo.MDet.wfuB U &&
  -- every listed candidate carries the package's name
  U.pkgs.all (fun np => np.2.cands.all (fun c => U.nameOf c == np.1)) &&
  -- every solvable with a table entry is listed by its package (if the package exists)
  U.solvs.all (fun s => match U.pkg? s.2.name with | some p => p.cands.contains s.1 | none => true) &&
  -- candidates are listed once
  U.pkgs.all (fun np => np.2.cands.eraseDups.length == np.2.cands.length) &&
  -- favored / locked / excluded / hinted are candidates
  U.pkgs.all (fun np => (match np.2.favored with | some f => np.2.cands.contains f | none => true) &&
                        (match np.2.locked with | some f => np.2.cands.contains f | none => true) &&
                        np.2.excluded.all (fun e => np.2.cands.contains e.1) &&
                        (hintedBy np.2).all (fun h => np.2.cands.contains h))

/-- Replays the implementation's history through the abstract system. -/
def traceOracle (U : Universe) (P : Problem) (r : ImplSolve) : List String :=
  let events := parseTrace r.trace
  match Resolvo.Abs.runOpt U P events with
  | none =>
    (match Resolvo.Abs.run U P events with
     | .error (k, ev) => [s!"oracle-fail C01,C02,C03,C05,C15 trace: event {k} of the solver history is not a legal step of the abstract system: {repr ev}".replace "\n" " ",
        -- the theorems of C07 / C08 speak about accepted histories: a rejected one breaks their tie to the implementation
        s!"oracle-fail C07,C08 mdet-history-rejected: the solver history is not accepted by the abstract system (event {k}), so the theorems about accepted histories do not apply to this run"]
     | .ok _ => ["oracle-fail C01,C02,C03,C05,C15 trace: history rejected"])
  | some st =>
    if r.result == "unsat" && st.failed.isNone then
      ["oracle-fail C01,C02,C03,C05,C15 trace: Unsolvable reported without a root-level falsified clause in the history"]
    else
      -- C03: the clauses the Conflict blames must, on their own, refute the root
      let blamed := r.conflictClauses.map (fun c => (st.db.getD c default).lits)
      let o := if r.result == "unsat" && Resolvo.Sat.decideSat' ([(0, true)] :: blamed) then
          ["oracle-fail C03 blamed-clauses: the clauses recorded in the Conflict do not refute the root (an antecedent is missing)"]
        else if r.result == "unsat" && r.conflictClauses.any (fun c => match (st.db.getD c default).kind with | .learnt _ => true | _ => false) then
          ["oracle-fail C03 blamed-clauses: a learnt clause is reported instead of its antecedents"]
        else []
      -- refinement obligation R4: every decision of the history is one `decide` can produce (Abs/Decide.lean)
      let d := match Resolvo.Abs.runD U P events with
        | .error (k, ev) => [s!"oracle-fail C05,C07,C08 mdet-decide-guard: event {k} of the solver history is a decision that the decision rule cannot produce (not the first undecided candidate, in cache order, of an unsatisfied requirement of a selected solvable): {repr ev}".replace "\n" " "]
        | .ok _ => ["info decide-guard ok"]
      -- the conflict graph, its graphviz form and the user-friendly message: built by the exact model (Render.lean) from the
      -- state of the accepted history itself - the very object `C03.edges_truthful` / `C04.message_rendering_terminates`
      -- speak about - they must equal the real ones (edges as a set, the two texts byte for byte)
      let hexOf (s : String) : String := s.toUTF8.toList.foldl (fun acc b =>
        let dg (n : Nat) : Char := if n < 10 then Char.ofNat (48 + n) else Char.ofNat (87 + n)
        acc.push (dg (b.toNat / 16)) |>.push (dg (b.toNat % 16))) ""
      let msg := if r.result == "unsat" && !(r.graphNodes.isEmpty && r.graphEdges.isEmpty) then
          let kinds := r.conflictClauses.map (fun cid => (st.db.getD cid default).kind)
          let rg := Resolvo.Render.buildGraph U st.origins kinds
          let rge := Resolvo.MDet.sortStr ((Resolvo.Render.nodeEdges rg).map (fun x => Resolvo.MDet.edgeStr ⟨x.1, x.2.1, x.2.2⟩))
          if rge != r.graphEdges then
            [s!"oracle-fail C03,C06 mdet-graph: the ordered graph model has other edges: implementation [{" ".intercalate r.graphEdges}] model [{" ".intercalate rge}]"]
          else
          let gvImpl := (r.other.find? (fun l => l.startsWith "graphviz-hex ")).map (fun l => (l.drop 13).toString)
          if gvImpl.isSome && gvImpl != some (hexOf (Resolvo.Render.graphviz U rg)) then
            [s!"oracle-fail C04,C06 mdet-graphviz: the graphviz form differs: implementation `{gvImpl.getD ""}` model `{hexOf (Resolvo.Render.graphviz U rg)}`"]
          else if r.message.isEmpty || r.message.startsWith "panic" then []
          else
          match Resolvo.Render.render U rg with
          | some text =>
            if hexOf text == r.message then ["info mdet-message 1"]
            else [s!"oracle-fail C04,C06 mdet-message: the user-friendly conflict message differs: implementation `{r.message}` model `{hexOf text}`"]
          | none => ["oracle-fail C04 mdet-message-fuel: the model of the message renderer ran out of fuel"]
        else []
      o ++ d ++ msg ++ [s!"info trace-accepted events {events.length} clauses {st.db.length}"]

open Resolvo.Graph in
def parseNode (s : String) : Node :=
  if s == "root" then .root
  else if s == "unresolved" then .unresolved
  else if s.startsWith "excl" then .excl (nat! (s.drop 4).toString)
  else .solv (nat! (s.drop 1).toString)

open Resolvo.Graph in
/-- `s15>s10:req:v10` -/
def parseEdge (s : String) : Option Edge :=
  match s.splitOn ">" with
  | [a, rest] =>
    (match rest.splitOn ":" with
     | [b, "req", r] => some ⟨parseNode a, parseNode b, .req (parseReq r)⟩
     | [b, "constrains", v] => some ⟨parseNode a, parseNode b, .constrains (nat! v)⟩
     | [b, "locked", l] => some ⟨parseNode a, parseNode b, .locked (nat! l)⟩
     | [b, "forbid"] => some ⟨parseNode a, parseNode b, .forbid⟩
     | [b, "excluded"] => some ⟨parseNode a, parseNode b, .excluded⟩
     | _ => none)
  | _ => none

open Resolvo.Graph in
/-- C03 oracles on the implementation's conflict graph. -/
def graphOracle (U : Universe) (P : Problem) (r : ImplSolve) : List String :=
  if r.graphNodes.isEmpty && r.graphEdges.isEmpty then
    (match r.other.find? (fun l => l.startsWith "graph panic") with
     | some l => [s!"oracle-fail C03,C04 graph-panic: {l}"]
     | none => ["oracle-fail C03 graph-missing: Unsolvable without a conflict graph"])
  else
    let edges := r.graphEdges.filterMap parseEdge
    let nodes := r.graphNodes.map parseNode
    let bad := edges.filter (fun e => !edgeTrueB U P edges e)
    let o1 := if edges.length != r.graphEdges.length then ["oracle-fail C03 graph-parse: unparsable edge"] else []
    let o2 := match bad with
      | e :: _ => [s!"oracle-fail C03 edge-untrue: edge {repr e} does not state a true fact of the provider's data".replace "\n" " "]
      | [] => []
    let o3 := if reachableB edges nodes then [] else ["oracle-fail C03 unreachable: a node of the conflict graph is not reachable from the root"]
    let o4 := if graphRefutes edges then [] else ["oracle-fail C03 not-a-refutation: the facts shown in the conflict graph (with one-solvable-per-package for forbid-joined nodes) allow a selection that installs the root"]
    -- C04: the rendered forms are bounded by the size of the conflict (linear in nodes + edges, with room for the
    -- indentation of nested requirements); measured maximum over 239 000 generated conflicts: 70 bytes per element
    let size := nodes.length + edges.length + 1
    let bound := size * (300 + 8 * nodes.length)
    let msgBytes := r.message.length / 2
    let gvBytes := match r.other.find? (fun l => l.startsWith "graphviz-len ") with
      | some l => nat! ((l.drop 13).toString)
      | none => 0
    let o5 := (if msgBytes > bound then
        [s!"oracle-fail C04 message-size: the user-friendly message has {msgBytes} bytes for a conflict graph with {nodes.length} nodes and {edges.length} edges (bound {bound})"] else []) ++
      (if gvBytes > bound then
        [s!"oracle-fail C04 graphviz-size: the graphviz form has {gvBytes} bytes for a conflict graph with {nodes.length} nodes and {edges.length} edges (bound {bound})"] else [])
    o1 ++ o2 ++ o3 ++ o4 ++ o5 ++ [s!"info graph edges {edges.length} nodes {nodes.length}"]

def oracleSolve (U : Universe) (P : Problem) (cfg : String) (r : ImplSolve) (prior : List String := []) : List String :=
  let solvable := decideSolvable U P
  let info := [s!"info solvable {solvable} result {r.result}"] ++ (if r.result == "panic" || r.result == "abort" then [] else traceOracle U P r)
  let sync := cfgGet cfg "mode" == "sync"
  let cancelled := cfgGet cfg "cancel" != "-"
  let ls : List String := match r.result with
  | "ok" =>
    let sel := r.solution
    let exempt := P.soft.filter (fun s => sel.contains s)
    let o1 := if validB U P sel exempt then [] else
      [s!"oracle-fail C01,C10,C13,C14,C15 valid: solution [{natList sel}] violates {validWhy U P sel exempt}"]
    let o2 := if solvable then [] else [s!"oracle-fail C02,C10,C13,C14,C15 verdict: implementation returned a solution but the hard problem has none (decideSolvable=false)"]
    let o5 := if supportedB U P sel then [] else
      [s!"oracle-fail C05 supported: solution [{natList sel}] contains a solvable not reachable from the root/soft requirements (supported: [{natList (supportClosure U P sel)}])"]
    let o7 := if P.soft.isEmpty then
        match preferredConsistent U P with
        | some pref =>
          let o := if sameSet pref sel then [] else
            [s!"oracle-fail C07 preferred: first choices [{natList pref}] are mutually compatible but solution is [{natList sel}]"]
          -- C09 exactness on conflict-free problems without hints: dependencies requested for exactly the
          -- solvables of the solution, candidates for exactly the names their dependencies and the root mention
          let dcalls := (r.calls.filter (·.startsWith "d")).map (fun c => nat! (c.drop 1).toString)
          let ccalls := (r.calls.filter (·.startsWith "c")).map (fun c => nat! (c.drop 1).toString)
          let names := (namesOfDeps U P.reqs P.constraints ++ pref.flatMap (fun s => match U.deps s with
              | .known rs cs => namesOfDeps U rs cs | .unknown _ => [])).eraseDups
          let ox := if sync && prior.isEmpty && noHints U && cfgGet cfg "sortpeeks" != "1" then
              (if sameSet dcalls pref then [] else
                [s!"oracle-fail C09 exact-deps: conflict-free problem, solution [{natList pref}], but get_dependencies was called for [{natList dcalls}]"]) ++
              (if sameSet ccalls names then [] else
                [s!"oracle-fail C09 exact-cands: conflict-free problem, names mentioned [{natList names}], but get_candidates was called for [{natList ccalls}]"])
            else []
          o ++ ox ++ ["info preferred-consistent 1"]
        | none => []
      else []
    let o8 := if P.soft.isEmpty then
        match bestDirectApplicable U P with
        | some fcs => if fcs.all (fun c => sel.contains c) then ["info best-direct-applicable 1"] else
            [s!"oracle-fail C08 best-direct: a valid solution contains all first choices [{natList fcs}] of the root requirements but solution is [{natList sel}]", "info best-direct-applicable 1"]
        | none => []
      else []
    -- C14 (c): the last soft requirement was tried on top of exactly this solution; if the solution can be extended by
    -- it (and first choices for what it needs) without touching anything installed, skipping it was not best effort
    let o14 := if !sync || !prior.isEmpty || cancelled then [] else
      match P.soft.getLast? with
      | some s =>
        (match softInstallable U P sel exempt s with
         | some ext =>
           -- the known mechanism: an excluded / locked-out solvable was accepted under the documented exemption before
           -- its package was requested; once a later soft requirement requests the package, the package-level assertion
           -- contradicts the accepted solvable and every later soft requirement is rejected
           (match exempt.find? (fun e => U.excluded e || U.lockedOut e) with
            | some e => [s!"oracle-fail C14 soft-poisoned: a later soft requirement is rejected after an excluded or locked-out soft solvable was accepted under the exemption (rejected {s}, accepted {e}, solution [{natList sel}], could add [{natList ext}])"]
            | none => [s!"oracle-fail C14 soft-skipped: soft requirement {s} is not in the solution [{natList sel}] although adding [{natList ext}] keeps it valid"])
         | none => [])
      | none => []
    info ++ o1 ++ o2 ++ o5 ++ o7 ++ o8 ++ o14
  | "unsat" =>
    let o2 := if solvable then [s!"oracle-fail C02,C10,C13,C14,C15 verdict: implementation says Unsolvable but a solution exists (decideSolvable=true)"] else []
    info ++ o2 ++ graphOracle U P r
  | "cancelled" =>
    if cancelled && r.calls.any (·.startsWith "P") then info
    else info ++ [s!"oracle-fail C12 spurious-cancel: Cancelled returned although should_cancel_with_value never returned a value"]
  | "panic" =>
    info ++ [s!"oracle-fail C04,C10,C13,C14 panic: {r.resultArg}"]
  | other => info ++ [s!"oracle-fail C04,C10,C13 outcome: unexpected result {other}"]
  (
    -- C09 / C10 at-most-once on every outcome; causality for sync runs without hints
    let d := match dupWithin r.calls with
      | some c => [s!"oracle-fail C09,C10,C13 at-most-once: provider call {c} issued twice during one solve"]
      | none => match dupCalls (prior ++ r.calls) with
        | some c => [s!"oracle-fail C09,C10,C13 at-most-once: provider call {c} issued again although its answer had been obtained by an earlier solve on this solver"]
        | none => []
    -- C11 / C10: asynchronous runs
    let known := (prior.filter (·.startsWith "C")).map (fun w => nat! (w.drop 1).toString)
    -- (with a provider whose sort_candidates reads dependencies through the cache, `D` markers also record answers the
    -- *provider* asked for; they do not imply requests of the solver, so the pending-set oracle does not apply)
    let c11 := if sync then [] else
      (match (if cfgGet cfg "sortpeeks" == "1" then none else c11Check U P r.events known) with
       | some why => [s!"oracle-fail C11 not-issued: {why}"]
       | none => []) ++
      (if r.result == "panic" && (r.resultArg.splitOn "DEADLOCK").length > 1 then
        ["oracle-fail C10,C13 deadlock: the solver is pending but no provider request is outstanding"] else [])
    let c := if sync && prior.isEmpty && noHints U && !cfgGet cfg "sortpeeks" == "1" then
        match causalCheck U P r.calls with
        | some why => [s!"oracle-fail C09 causal: {why}"]
        | none => []
      else []
    -- C12: cancellation is honoured promptly and faithfully
    let plan := cfgGet cfg "cancel"
    let c12 :=
      if plan == "-" || plan == "" then []
      else
        let isCall (w : String) := w.startsWith "c" || w.startsWith "d"
        -- position of the first poll that returned a value
        let firstFired := (r.calls.takeWhile (fun w => !w.startsWith "P")).length
        let observed := firstFired < r.calls.length
        let firstSeen := (r.calls.takeWhile (fun w => !(w.startsWith "P" || w.startsWith "Q"))).length
        -- (`Q`: a poll that returned the value to a SolverCache call made from inside the provider's own sort_candidates -
        -- a look-ahead provider cannot hand it to the solver, so only `P` obliges solve to return Cancelled; but the
        -- cache has observed it, and no request may be started afterwards)
        let afterObs := (r.calls.drop (firstSeen + 1)).filter isCall
        let o1 := if observed && r.result != "cancelled" then
            [s!"oracle-fail C12 not-cancelled: should_cancel_with_value returned a value at a poll but solve returned `{r.result}`"] else []
        -- (a look-ahead provider returns one constant value: that of the first poll that fired, `P` or `Q`)
        let o2 := if observed && r.result == "cancelled" &&
                     r.resultArg != toString (7000 + nat! ((r.calls.getD firstSeen "P0").drop 1).toString) then
            [s!"oracle-fail C12 wrong-value: Cancelled carries {r.resultArg}, the provider returned {7000 + nat! ((r.calls.getD firstSeen "P0").drop 1).toString}"] else []
        let o3 := if !afterObs.isEmpty then
            [s!"oracle-fail C12 call-after-cancel: provider request {afterObs.headD ""} was started after cancellation had been observed"] else []
        -- call-indexed plans: the signal goes up while request number j is served
        let o4 := if plan.startsWith "c" then
            let jGlobal := nat! (plan.drop 1).toString
            let before := (prior.filter isCall).length
            let callIdxs := (r.calls.zipIdx.filter (fun p => isCall p.1)).map (·.2)
            let j := jGlobal - before
            match (if jGlobal < before then none else callIdxs[j]?) with
            | some pos =>
              let later := (r.calls.drop (pos + 1)).filter isCall
              let transient := cfgGet cfg "transient" == "1"
              -- (whether the solver polls again after its *last* request is not promised: a signal that goes
              -- up during the last request of a solve may legitimately go unnoticed)
              let _ := transient
              (if !later.isEmpty then
                [s!"oracle-fail C12 request-after-signal: the cancellation signal went up during provider request number {jGlobal} but request {later.headD ""} was still started afterwards (no poll in between)"] else [])
            | none => []
          else []
        -- the cache was handed the value (by a poll of either kind) and the solve ends in a panic instead of `Cancelled`
        let o5 := if firstSeen < r.calls.length && r.result == "panic" then
            [s!"oracle-fail C12 panic-after-cancel: should_cancel_with_value returned a value at a poll and solve panicked: {r.resultArg}"] else []
        o1 ++ o2 ++ o3 ++ o4 ++ o5
    ls ++ d ++ c ++ c12 ++ c11)

def parseF32 (s : String) : Float32 :=
  match s.splitOn "." with
  | [i] => Float32.ofNat (nat! i)
  | [i, f] => Float32.ofScientific (nat! (i ++ f)) true f.length
  | _ => 0

/-- initial MDet solver state from the `config` line -/
def mdetInit (cfg : String) : Resolvo.MDet.S :=
  let c := cfgGet cfg "cancel"
  let act := cfgGet cfg "activity"
  let s0 : Resolvo.MDet.S := { cancelAt := c.toNat?, cancelAtCall := (if c.startsWith "c" then (c.drop 1).toString.toNat? else none),
                                cancelTransient := cfgGet cfg "transient" == "1" }
  match act.splitOn ":" with
  | [a, d] => { s0 with activityAdd := parseF32 a, activityDecay := parseF32 d }
  | _ => s0

/-- Exact correspondence: the model's observations of one solve vs the implementation's. -/
def mdetCompare (U : Universe) (ms : Resolvo.MDet.S) (o : Resolvo.MDet.Outcome) (newLog : List String) (newTrace : List String) (r : ImplSolve) : List String :=
  let (mres, msol, mconf) : String × List Nat × List Nat := match o with
    | .ok sol => ("ok", sol, [])
    | .unsat c => ("unsat", [], c)
    | .stop (.cancelled v) => (s!"cancelled {v}", [], [])
    | .stop (.panic site) => (s!"panic {site}", [], [])
    | .stop .outOfFuel => ("out-of-fuel", [], [])
  let ires := if r.result == "cancelled" then s!"cancelled {r.resultArg}" else r.result
  let mresCmp := if mres.startsWith "panic" then "panic" else mres
  if o matches .stop .outOfFuel then ["oracle-fail C04 mdet-fuel: the model ran out of fuel on this case"]
  else if ires != mresCmp then [s!"oracle-fail C01,C02,C04,C05,C06,C07,C08,C09,C10,C11,C12,C13,C14,C15 mdet-result: implementation `{ires}` model `{mres}`"]
  else if msol != r.solution then [s!"oracle-fail C01,C05,C06,C07,C08,C10,C13,C14 mdet-solution: implementation [{natList r.solution}] model [{natList msol}]"]
  else if newLog != r.calls then
    let k := ((newLog.zip r.calls).takeWhile (fun p => p.1 == p.2)).length
    [s!"oracle-fail C09,C10,C11,C12,C13 mdet-calls: provider call log differs at position {k}: implementation `{r.calls.getD k "<end>"}` model `{newLog.getD k "<end>"}`"]
  else if mres.startsWith "panic" then []
  else if newTrace != r.trace then
    let k := ((newTrace.zip r.trace).takeWhile (fun p => p.1 == p.2)).length
    [s!"oracle-fail C01,C02,C03,C05,C06,C07,C08,C10,C13,C14,C15 mdet-trace: solver history differs at event {k}: implementation `{r.trace.getD k "<end>"}` model `{newTrace.getD k "<end>"}`"]
  else if mconf != r.conflictClauses then [s!"oracle-fail C03,C06 mdet-conflict-clauses: implementation [{natList r.conflictClauses}] model [{natList mconf}]"]
  else
    -- Conflict::graph
    let g := if mres == "unsat" && !(r.graphNodes.isEmpty && r.graphEdges.isEmpty) then
        let (nodes, edges) := Resolvo.MDet.conflictGraph U ms mconf
        let mn := Resolvo.MDet.sortStr (nodes.map Resolvo.MDet.nodeStr)
        let me := Resolvo.MDet.sortStr (edges.map Resolvo.MDet.edgeStr)
        if me != r.graphEdges then [s!"oracle-fail C03,C06 mdet-graph: conflict graph edges differ: implementation [{" ".intercalate r.graphEdges}] model [{" ".intercalate me}]"]
        else if mn != r.graphNodes then [s!"oracle-fail C03,C06 mdet-graph: conflict graph nodes differ: implementation [{" ".intercalate r.graphNodes}] model [{" ".intercalate mn}]"]
        else
          -- the object of `C03.edges_truthful_exact_model`: the ordered graph built from the model's own final state
          let own := Resolvo.MDet.sortStr ((Resolvo.Render.nodeEdges (Resolvo.MDet.modelGraph U ms mconf)).map (fun x => Resolvo.MDet.edgeStr ⟨x.1, x.2.1, x.2.2⟩))
          if own != r.graphEdges then [s!"oracle-fail C03,C06 mdet-graph-own: the graph built from the model's own clause arena has other edges: implementation [{" ".intercalate r.graphEdges}] model [{" ".intercalate own}]"]
          else ["info mdet-graph-own 1"]
      else []
    g ++ ["info mdet-exact 1"]

def runSolve (lines : List String) : List String :=
  let caseLines := lines.filter (fun l => !l.startsWith "> ")
  let implLines := (lines.filter (fun l => l.startsWith "> ")).map (fun l => (l.drop 2).toString)
  let U := parseUniverse caseLines
  let probs := (caseLines.filter (fun l => l.startsWith "problem ")).map parseProblem
  let cfg := (caseLines.find? (fun l => l.startsWith "config ")).getD "config"
  if !wfB U then ["info not-wf"]
  else
    let impls := parseImpl implLines
    let sync := cfgGet cfg "mode" == "sync" && cfgGet cfg "sortpeeks" != "1"
    -- asynchronous provider with synchronous filter/sort: the exact model follows the executor's completion order
    let asyncExact := cfgGet cfg "mode" == "async" && cfgGet cfg "sortpeeks" != "1"
    let rec go (ps : List Problem) (is : List ImplSolve) (k : Nat) (ms : Resolvo.MDet.S) (prior : List String) (acc : List String) : List String :=
      match ps, is with
      | p :: ps', i :: is' =>
        let md := if sync || asyncExact then
            let fuel := 400 + 40 * (U.solvs.length + U.vsets.length) * (U.solvs.length + 4)
            let sched := (i.events.filter (·.startsWith "complete ")).map (fun e => (e.drop 9).toString)
            let (o, ms') := Resolvo.MDet.solveRun U p (if asyncExact then 4 * fuel else fuel)
              { ms with trace := [], asyncMode := asyncExact, gateFs := cfgGet cfg "gatefs" == "1", sched := sched, aevents := [] }
            let newLog := (ms'.log.take (ms'.log.length - ms.log.length)).reverse
            -- the checked model: its own history and answer go through the verified checkers
            let chk := match Resolvo.MDet.checkOutcome U p o ms'.trace.reverse with
              | .checkFailed what => [s!"oracle-fail C01,C02,C03,C05,C14,C15 mdet-checkfailed: the model's own run does not pass the verified checkers: {what}"]
              | .ok _ => ["info checked ok"]
              | .unsat _ => ["info checked unsat"]
              | .stop _ => ["info checked stop"]
            let evs := if asyncExact && ms'.aevents.reverse != i.events && !(o matches .stop _) then
                let me := ms'.aevents.reverse
                let k := ((me.zip i.events).takeWhile (fun p => p.1 == p.2)).length
                [s!"oracle-fail C10,C11 mdet-events: executor events differ at position {k}: implementation `{i.events.getD k "<end>"}` model `{me.getD k "<end>"}`"]
              else []
            -- the model's ghost record of candidate requests is the `c<n>` entries of its own call log
            let ghost := if (ms'.issuedCands.reverse.map (fun n => s!"c{n}")) == newLog.filter (fun w => w.startsWith "c") then []
              else ["oracle-fail C09,C10 mdet-ghost: the model's structured record of get_candidates requests differs from its call log"]
            -- the structured twin of the call log (the object of the C12 theorems) renders to the call log itself
            let ghost := ghost ++ (if ((ms'.glog.take (ms'.glog.length - ms.glog.length)).reverse.map Resolvo.MDet.gevStr) == newLog then []
              else ["oracle-fail C09,C10,C12 mdet-ghost: the model's structured call log differs from its call log"])
            let ghost := ghost ++ (if (ms'.issuedDeps.reverse.map (fun n => s!"d{n}")) == newLog.filter (fun w => w.startsWith "d") then []
              else ["oracle-fail C09,C10 mdet-ghost: the model's structured record of get_dependencies requests differs from its call log"])
            (mdetCompare U ms' o newLog (ms'.trace.reverse.map Resolvo.MDet.evLine) i ++ evs ++ ghost ++ chk, ms')
          else ([], ms)
        -- C15 family: the spec-level expectation (two candidates of one package required => Unsolvable; one => solvable)
        let expect := (caseLines.find? (fun l => l.startsWith "expect ")).map (fun l => (l.drop 7).toString)
        let ex := match expect with
          | some e => if i.result == e then [] else [s!"oracle-fail C15 pair-or-single: the problem requires {if e == "unsat" then "two different candidates" else "exactly one candidate"} of one package, expected `{e}` but solve returned `{i.result}`"]
          | none => []
        go ps' is' (k + 1) md.2 (prior ++ i.calls) (acc ++ [s!"solve {k}"] ++ oracleSolve U p cfg i prior ++ md.1 ++ ex)
      | _, _ => acc
    go probs impls 0 (mdetInit cfg) [] []

end Resolvo.Drv
