import Resolvo.MDet.TaskWalk
/-!
# The discipline of the provider call log along every run of the model (C12)

`LogSpec x`: whatever the state `x` starts from and however it ends, the entries it adds to the (structured) call
log form a *chunk*: every provider request (`call`) is directly preceded by a poll of `should_cancel_with_value`
that returned nothing; a poll that returned a value can only be the newest entry, and it is there exactly when the
computation ended `cancelled` — carrying the value of that very poll. Chunks compose under sequencing, so this is a
discipline (`logD`); it is kept by the functions that write the log, and `MDet/Walk.lean` carries it through the
whole of `solve` (`logspec_solve`).
-/
namespace Resolvo.MDet
open Resolvo Resolvo.Sat Resolvo.Abs

/-- every request in the chunk is directly preceded (older neighbour) by a poll that did not fire -/
def CallsPolled : List GEv → Prop
  | [] => True
  | .call _ _ :: rest => (∃ k rest', rest = .poll k false :: rest') ∧ CallsPolled rest
  | .poll _ _ :: rest => CallsPolled rest
  | .got _ _ :: rest => CallsPolled rest

/-- no poll in the list returned a value -/
def NoFired (l : List GEv) : Prop := ∀ k, GEv.poll k true ∉ l

/-- what the entries added by one computation look like, given how it ended -/
def Chunk {α : Type} (r : Except Stop α) (new : List GEv) : Prop :=
  CallsPolled new ∧
  match r with
  | .error (.cancelled v) => ∃ k rest, new = .poll k true :: rest ∧ v = 7000 + k ∧ NoFired rest
  | _ => NoFired new

def LogSpecAt {α : Type} (x : M α) (s : S) : Prop :=
  ∃ new, (runM x s).2.glog = new ++ s.glog ∧ Chunk (runM x s).1 new

def LogSpec {α : Type} (x : M α) : Prop := ∀ s, LogSpecAt x s

theorem callsPolled_append (a b : List GEv) (ha : CallsPolled a) (hb : CallsPolled b) : CallsPolled (a ++ b) := by
  induction a with
  | nil => exact hb
  | cons e rest ih =>
    cases e with
    | call c i =>
      obtain ⟨⟨k, rest', hr⟩, hrest⟩ := ha
      exact ⟨⟨k, rest' ++ b, by rw [hr]; rfl⟩, ih hrest⟩
    | poll k f => exact ih ha
    | got c i => exact ih ha

theorem noFired_append (a b : List GEv) (ha : NoFired a) (hb : NoFired b) : NoFired (a ++ b) :=
  fun k hm => (List.mem_append.mp hm).elim (ha k) (hb k)

theorem noFired_nil : NoFired [] := fun _ h => nomatch h

/-- a run that ended with cancellation value `c` (or otherwise, `none`), as `Chunk` wants to see it -/
def endedWith : Option Nat → Except Stop Unit
  | some v => .error (.cancelled v)
  | none => .ok ()

theorem chunk_cancelOf {α : Type} (r : Except Stop α) (new : List GEv) : Chunk (endedWith (cancelOf r)) new ↔ Chunk r new := by
  cases r with
  | ok a => exact Iff.rfl
  | error e => cases e <;> exact Iff.rfl

/-- chunks compose: a cancelled run's chunk on top of chunks of runs that went on -/
theorem chunk_append {c : Option Nat} {new1 new2 : List GEv} (h1 : Chunk (endedWith none) new1) (h2 : Chunk (endedWith c) new2) :
    Chunk (endedWith c) (new2 ++ new1) := by
  refine ⟨callsPolled_append _ _ h2.1 h1.1, ?_⟩
  cases c with
  | none => exact noFired_append _ _ h2.2 h1.2
  | some v =>
    obtain ⟨k, rest, hnew, hv, hnf⟩ := h2.2
    exact ⟨k, rest ++ new1, by rw [hnew]; rfl, hv, noFired_append _ _ hnf h1.2⟩

/-- the call-log discipline: no invariant, the effect is that the log grew by a chunk -/
def logD : Discipline where
  Inv _ := True
  Eff s c s' := ∃ new, s'.glog = new ++ s.glog ∧ Chunk (endedWith c) new
  refl _ := ⟨[], rfl, trivial, noFired_nil⟩
  trans := fun ⟨new1, hg1, hc1⟩ ⟨new2, hg2, hc2⟩ => ⟨new2 ++ new1, by rw [hg2, hg1, List.append_assoc], chunk_append hc1 hc2⟩

theorem logSpecAt_iff {α : Type} {x : M α} {s : S} : LogSpecAt x s ↔ KeepsAt logD x s := by
  rw [keepsAt_def]
  exact ⟨fun ⟨new, hg, hc⟩ _ => ⟨trivial, new, hg, (chunk_cancelOf _ _).mpr hc⟩,
    fun h => let ⟨_, new, hg, hc⟩ := h trivial; ⟨new, hg, (chunk_cancelOf _ _).mp hc⟩⟩

theorem logSpec_iff {α : Type} {x : M α} : LogSpec x ↔ Keeps logD x :=
  ⟨fun h => ⟨fun s => logSpecAt_iff.mp (h s)⟩, fun h s => logSpecAt_iff.mpr (h.on s)⟩

theorem logD_step {s s' : S} (h : s'.glog = s.glog) : logD.Step s s' := fun _ => ⟨trivial, [], h, trivial, noFired_nil⟩

theorem logspec_of_at {α : Type} (x : M α) (h : ∀ s, LogSpecAt x s) : LogSpec x := h
theorem logspecAt_set (s' s : S) (h : s'.glog = s.glog) : LogSpecAt (set s' : M Unit) s :=
  logSpecAt_iff.mpr (keepsAt_set (logD_step h))
theorem logspec_requestStarted : LogSpec requestStarted := logSpec_iff.mpr (keeps_modify fun _ => logD_step rfl)

theorem logspec_bind {α β : Type} (x : M α) (k : α → M β) (hx : LogSpec x) (hk : ∀ a, LogSpec (k a)) : LogSpec (x >>= k) :=
  logSpec_iff.mpr (keeps_bind (logSpec_iff.mp hx) fun a => logSpec_iff.mp (hk a))

theorem logD_pollCancel : Keeps logD pollCancel :=
  ⟨fun s => keepsAt_def.mpr fun _ => by
    rw [runM_pollCancel]
    split
    · exact ⟨trivial, [.poll s.polls true], rfl, trivial, s.polls, [], rfl, rfl, noFired_nil⟩
    · exact ⟨trivial, [.poll s.polls false], rfl, trivial, fun k hm => by simp at hm⟩⟩

/-- a poll followed by the registration of a request: the only way a `call` entry is ever written -/
theorem logD_poll_call {g : S → S} (c : Bool) (i : Nat) (hg : ∀ s, (g s).glog = .call c i :: s.glog) :
    Keeps logD (pollCancel >>= fun _ => (modify g : M Unit)) :=
  ⟨fun s => keepsAt_def.mpr fun _ => by
    rw [runM_bind, runM_pollCancel]
    by_cases hf : fires s = true
    · rw [if_pos hf]
      exact ⟨trivial, [.poll s.polls true], rfl, trivial, s.polls, [], rfl, rfl, noFired_nil⟩
    · rw [if_neg hf]
      exact ⟨trivial, [.call c i, .poll s.polls false], by simp only [runM_modify, hg]; rfl, ⟨⟨s.polls, [], rfl⟩, trivial⟩,
        fun k hm => by simp at hm⟩⟩

theorem logD_poll_call_then {β : Type} {g : S → S} (c : Bool) (i : Nat) (hg : ∀ s, (g s).glog = .call c i :: s.glog)
    {k : Unit → M β} (hk : Keeps logD (k ())) : Keeps logD (pollCancel >>= fun _ => ((modify g : M Unit) >>= k)) := by
  rw [← bind_assoc]
  exact keeps_bind (logD_poll_call c i hg) fun _ => hk

/-- the marker of an obtained answer (asynchronous provider) is neither a request nor a poll -/
theorem logD_got {g : S → S} (c : Bool) (i : Nat) (hg : ∀ s, (g s).glog = .got c i :: s.glog) : Keeps logD (modify g : M Unit) :=
  ⟨fun s => keepsAt_def.mpr fun _ => ⟨trivial, [.got c i], hg s, trivial, fun k hm => by simp at hm⟩⟩

theorem logD_scratch : logD.IgnoresScratch := fun h => logD_step (congrArg Obs.glog h)

theorem logD_getCandidates (U : Universe) (n : Nat) : Keeps logD (getCandidates U n) := by
  unfold getCandidates
  exact keeps_get_bind fun s => keepsAt_ite (fun _ => (logD_poll_call_then true n (fun _ => rfl)
    (keeps_bind (keeps_requestStarted logD_scratch) fun _ => keeps_pure _)).on s) fun _ => (keeps_pure _).on s

theorem logD_getDeps (U : Universe) (sv : Nat) : Keeps logD (getDeps U sv) := by
  unfold getDeps
  exact keeps_get_bind fun s => keepsAt_ite (fun _ => (logD_poll_call_then false sv (fun _ => rfl)
    (keeps_bind (keeps_requestStarted logD_scratch) fun _ => keeps_pure _)).on s) fun _ => (keeps_pure _).on s

theorem logD_startDeps (sv : Nat) : Keeps logD (startDeps sv) := by
  unfold startDeps logCall
  refine logD_poll_call_then false sv (fun _ => rfl) ?_
  walk using keeps_requestStarted logD_scratch, keeps_modify fun _ => logD_step rfl

theorem logD_finishDeps (sv : Nat) : Keeps logD (finishDeps sv) := logD_got false sv fun _ => rfl
theorem logD_finishCands (U : Universe) (n : Nat) : Keeps logD (finishCands U n) := logD_got true n fun _ => rfl

theorem logD_pollCands (U : Universe) (tid n : Nat) (w : CandWait) (a : AS) : Keeps logD (pollCands U tid n w a) := by
  unfold pollCands
  refine keeps_get_bind fun s => ?_
  cases w with
  | ready => exact (keeps_pure _).on s
  | notStarted =>
    refine keepsAt_ite (fun _ => (keeps_pure _).on s) fun _ => ?_
    -- the poll and the request that may follow it are one step of the discipline, so the test between them is made first
    by_cases hc : (a.inflight.lookup n).isSome = true
    · simp only [hc, if_true]
      exact (keeps_bind logD_pollCancel fun _ => keeps_pure _).on s
    · simp only [hc, Bool.false_eq_true, if_false]
      unfold logCall
      refine (logD_poll_call_then true n (fun _ => rfl) ?_).on s
      walk using keeps_requestStarted logD_scratch, keeps_modify fun _ => logD_step rfl
  | owner =>
    exact keepsAt_ite (fun _ => (keeps_bind (logD_finishCands U n) fun _ => keeps_pure _).on s) fun _ => (keeps_pure _).on s
  | listener => exact keepsAt_ite (fun _ => (keeps_pure _).on s) fun _ => (keeps_pure _).on s

theorem logD_provider {s s' : S} (_ : s'.fetchedCands = s.fetchedCands) (_ : s'.fetchedDeps = s.fetchedDeps) (_ : s'.log = s.log)
    (h : s'.glog = s.glog) (_ : s'.asyncMode = s.asyncMode) : logD.Step s s' := logD_step h

theorem logspec_encode (U : Universe) (P : Problem) (sv : List SoR) (fuel : Nat) : LogSpec (encode U P sv fuel) :=
  logSpec_iff.mpr (keeps_encode (callbackPrims_of_provider logD_provider) (fun _ _ _ => logD_step rfl) logD_getCandidates logD_getDeps
    logD_pollCands logD_startDeps logD_finishDeps U P sv fuel)

theorem logD_solver (U : Universe) (P : Problem) : SolverPrims logD U P :=
  solverPrims_of_provider logD_provider logD_pollCancel fun sv fuel => logSpec_iff.mp (logspec_encode U P sv fuel)

theorem logspec_propagate (level fuel : Nat) : LogSpec (propagate level fuel) :=
  logSpec_iff.mpr (keeps_propagate (logD_solver default default) level fuel)

theorem logspec_solve (U : Universe) (P : Problem) (fuel : Nat) : LogSpec (solve U P fuel) :=
  logSpec_iff.mpr (keeps_solve_of_provider logD_provider logD_pollCancel (fun sv fuel => logSpec_iff.mp (logspec_encode U P sv fuel)) fuel)

/-- the entries one `solve` adds to the call log, given its outcome -/
def OutcomeChunk (o : Outcome) (new : List GEv) : Prop :=
  CallsPolled new ∧
  match o with
  | .stop (.cancelled v) => ∃ k rest, new = .poll k true :: rest ∧ v = 7000 + k ∧ NoFired rest
  | _ => NoFired new

/-- **The call-log discipline of a whole solve** — every universe, problem, fuel and solver state (cache contents,
    cancellation plan, sync or async mode with any completion order). -/
theorem solveRun_chunk (U : Universe) (P : Problem) (fuel : Nat) (s : S) :
    ∃ new, (solveRun U P fuel s).2.glog = new ++ s.glog ∧ OutcomeChunk (solveRun U P fuel s).1 new := by
  obtain ⟨new, hg, hp, hc⟩ := logspec_solve U P fuel s
  have hrun : (solve U P fuel).run.run s = runM (solve U P fuel) s := rfl
  unfold solveRun
  rw [hrun]
  cases h : runM (solve U P fuel) s with
  | mk r s' =>
    rw [h] at hg hc
    refine ⟨new, ?_⟩
    cases r with
    | ok o => cases o <;> exact ⟨hg, hp, hc⟩
    | error e => cases e <;> exact ⟨hg, hp, hc⟩

end Resolvo.MDet
