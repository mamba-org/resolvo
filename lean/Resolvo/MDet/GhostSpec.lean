import Resolvo.MDet.TaskWalk
/-!
# The structured call log and the request records are faithful twins of the call log (all runs of the model)

`Ghost s`: the provider call log `s.log` (the strings the correspondence compares with the real solver's log) is the
rendering of the structured log `s.glog` that the theorems of C09 / C12 speak about. It is kept by the functions that
write the two logs, hence (`MDet/Walk.lean`) by every function of the model, synchronous and asynchronous, so the twin
relation holds after every history of solves: the theorems about `glog` are theorems about the compared call log.
-/
namespace Resolvo.MDet
open Resolvo Resolvo.Sat Resolvo.Abs

def Ghost (s : S) : Prop := s.log = s.glog.map gevStr

def ghostD : Discipline := .ofInv Ghost

theorem ghostD_step {s s' : S} (h1 : s'.log = s.log) (h2 : s'.glog = s.glog) : ghostD.Step s s' :=
  fun h => ⟨show s'.log = _ by rw [h1, h2]; exact h, trivial⟩

theorem ghostD_scratch : ghostD.IgnoresScratch := fun h => ghostD_step (congrArg Obs.log h) (congrArg Obs.glog h)

theorem ghostD_pollCancel : Keeps ghostD pollCancel :=
  ⟨fun s => keepsAt_of_step id (by
    rw [runM_pollCancel]
    split <;> exact fun h => ⟨show _ :: s.log = _ by rw [h]; rfl, trivial⟩)⟩

/-- an entry and its twin are written together -/
theorem ghostD_logBoth {g : S → S} (e : GEv) (hl : ∀ s, (g s).log = gevStr e :: s.log) (hg : ∀ s, (g s).glog = e :: s.glog) :
    Keeps ghostD (modify g : M Unit) :=
  keeps_modify fun s h => ⟨show (g s).log = _ by rw [hl, hg, List.map_cons, ← h], trivial⟩

theorem ghostD_getCandidates (U : Universe) (n : Nat) : Keeps ghostD (getCandidates U n) := by
  unfold getCandidates
  walk using ghostD_pollCancel, keeps_requestStarted ghostD_scratch,
    ghostD_logBoth (.call true n) (fun _ => rfl) (fun _ => rfl)

theorem ghostD_getDeps (U : Universe) (sv : Nat) : Keeps ghostD (getDeps U sv) := by
  unfold getDeps
  walk using ghostD_pollCancel, keeps_requestStarted ghostD_scratch,
    ghostD_logBoth (.call false sv) (fun _ => rfl) (fun _ => rfl)

theorem ghostD_startDeps (sv : Nat) : Keeps ghostD (startDeps sv) := by
  unfold startDeps logCall
  walk using ghostD_pollCancel, keeps_requestStarted ghostD_scratch,
    ghostD_logBoth (.call false sv) (fun _ => rfl) (fun _ => rfl), keeps_modify fun _ => ghostD_step rfl rfl

theorem ghostD_finishDeps (sv : Nat) : Keeps ghostD (finishDeps sv) :=
  ghostD_logBoth (.got false sv) (fun _ => rfl) (fun _ => rfl)

theorem ghostD_finishCands (U : Universe) (n : Nat) : Keeps ghostD (finishCands U n) :=
  ghostD_logBoth (.got true n) (fun _ => rfl) (fun _ => rfl)

theorem ghostD_pollCands (U : Universe) (tid n : Nat) (w : CandWait) (a : AS) : Keeps ghostD (pollCands U tid n w a) := by
  unfold pollCands logCall
  walk using ghostD_pollCancel, keeps_requestStarted ghostD_scratch, ghostD_finishCands _ _,
    ghostD_logBoth (.call true n) (fun _ => rfl) (fun _ => rfl), keeps_modify fun _ => ghostD_step rfl rfl

theorem ghostD_provider {s s' : S} (_ : s'.fetchedCands = s.fetchedCands) (_ : s'.fetchedDeps = s.fetchedDeps) (hl : s'.log = s.log)
    (hg : s'.glog = s.glog) (_ : s'.asyncMode = s.asyncMode) : ghostD.Step s s' := ghostD_step hl hg

/-- **The call log is the rendering of the structured log after every solve** (sync and async, every state). -/
theorem solveRun_ghost (U : Universe) (P : Problem) (fuel : Nat) (s : S) (h : Ghost s) : Ghost (solveRun U P fuel s).2 :=
  solveRun_inv (keeps_solve_of_provider ghostD_provider ghostD_pollCancel (keeps_encode (callbackPrims_of_provider ghostD_provider)
    (fun _ _ _ => ghostD_step rfl rfl) ghostD_getCandidates ghostD_getDeps ghostD_pollCands ghostD_startDeps ghostD_finishDeps U P) fuel)
    (show Ghost (solveReset s) from h)

theorem history_ghost (U : Universe) (fuel : Nat) (ps : List Problem) (s : S) (h : Ghost s) :
    Ghost (ps.foldl (fun st p => (solveRun U p fuel st).2) s) :=
  history_inv (fun P s => solveRun_ghost U P fuel s) ps h

end Resolvo.MDet
