import Resolvo.MDet.Frame
import Resolvo.MDet.AsyncInv
/-!
# Run-level at-most-once for candidate requests in the asynchronous encoder model (C10)

`CInv`: the packages whose candidates have been requested in this solve are pairwise distinct, and each of them is
either answered (in the cache) or still in flight. One step of the encoder loop preserves it, so along every run —
any universe, problem, solver state, completion order — `get_candidates` is never issued twice for one package:
a second requester finds the answer cached or the request in flight and listens.
-/
namespace Resolvo.MDet
open Resolvo

/-- `CInv` reads the in-flight table and the cache view only: adoption and the ready queue do not matter to it -/
theorem cinv_invariant (U : Universe) (P : Problem) : LoopInvariant U P CInv where
  adopt _ h := ⟨h.nd, h.cov⟩
  turn hp h := hp.cinv h
  skip _ _ h := ⟨h.nd, h.cov⟩
  poll _ _ post h := let h' := post.cinv ⟨h.nd, h.cov⟩; ⟨h'.nd, h'.cov⟩
  -- clause generation never touches the provider cache
  callback r h := h.of_same ⟨rfl, pres_runCallback U P r _⟩

theorem asyncStep_cinv (U : Universe) (P : Problem) (a : AS) (s s' : S) (a' : AS) (hi : CInv a s)
    (h : runM (asyncStep U P a) s = (.ok (some a'), s')) : CInv a' s' :=
  (cinv_invariant U P).post hi _ _ h

/-- the states the encoder loop reaches from `s0` with nothing adopted and nothing in flight -/
inductive ReachFrom (U : Universe) (P : Problem) (s0 : S) : AS → S → Prop
  | start : ReachFrom U P s0 {} s0
  | step {a a' : AS} {s s' : S} : ReachFrom U P s0 a s → runM (asyncStep U P a) s = (.ok (some a'), s') → ReachFrom U P s0 a' s'

theorem ReachFrom.reach {U : Universe} {P : Problem} {s0 : S} {a : AS} {s : S} (h : ReachFrom U P s0 a s) : Reach U P a s := by
  induction h with
  | start => exact .start s0
  | step _ hs ih => exact .step ih hs

end Resolvo.MDet
