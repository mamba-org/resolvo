import Resolvo.MDet.Walk
import Resolvo.MDet.AsyncPoll
/-!
# The encoder's work list, for a discipline that says which tasks may be run

`MDet/Walk.lean` carries through the encoder a discipline that does not look at the work list. An invariant that does
(`TInv`: every queued task asks about something true; `KInv`: every queued task is causal) comes with a predicate
`T s t` on tasks: the invariant guarantees it of every queued task, it survives the effects of the discipline, and
the work list may be replaced by any list of such tasks (`Tasks D T`). Given that and what the discipline needs to
run one task from a state in which `T` holds of it, the encoder loops keep the discipline — synchronous and
asynchronous, where the futures carry `T` of their task (`A s t`) from adoption to the callback.
`on_dependencies_available`, the callback that writes the work list, is walked here too: it keeps the discipline if `T`
holds of the tasks it pushes.
-/
namespace Resolvo.MDet
open Resolvo

/-- `T s t`: the task `t` may be run in state `s`. The work list and the set of solvables marked as added are written
    together (`queueSolvable`), hence the pair in `setQueue`; a `deps` task is queued for any solvable the solver asks to
    encode, so `T` cannot constrain it (`deps`). -/
structure Tasks (D : Discipline) (T : S → Task → Prop) : Prop where
  scratch : D.IgnoresScratch
  stable : ∀ t, D.Stable (T · t)
  queued : ∀ {s}, D.Inv s → ∀ t ∈ s.queue, T s t
  setQueue : ∀ (s : S) q a, (D.Inv s → ∀ t ∈ q, T s t) → D.Step s { s with queue := q, addedSolv := a }
  deps : ∀ s sid, T s (.deps sid)

/-- `A s t`: the future `t` of the asynchronous encoder may be polled in state `s`, and its callback run when it is
    finished; `R r s`: what the discipline knows of a result once a poll has handed it over -/
structure Futures (D : Discipline) (T : S → Task → Prop) (U : Universe) (P : Problem) (A : S → ATask → Prop)
    (R : TaskResult → S → Prop) : Prop where
  stable : ∀ t, D.Stable (A · t)
  stableRes : ∀ r, D.Stable (R r)
  /-- a pushed task that may be run becomes a future with `A` … -/
  adopt : ∀ s t x, T s t → x.task = t → (∀ sid r, t = .req sid r → x.children.map (·.vs) = U.reqVersionSets r) →
    (∀ sid vs, t = .cons sid vs → x.children.map (·.vs) = [vs]) → A s x
  /-- … and `A` looks at the task and the version sets of the children only -/
  same : ∀ s t t', t'.task = t.task → t'.children.map (·.vs) = t.children.map (·.vs) → A s t → A s t'
  poll : ∀ t a, Triple D (A · t) (pollTask U P t a) fun v s => ∀ r, v.2.2 = some r → R r s
  callback : ∀ t cs, cs.map (·.vs) = t.children.map (·.vs) →
    Triple D (fun s => A s t ∧ R (answerOf U P cs t.task) s) (runCallback U P (answerOf U P cs t.task)) fun _ _ => True

section tasks
variable {D : Discipline} {T : S → Task → Prop} (Q : Tasks D T)
include Q

theorem Tasks.push {s : S} {t : Task} (a : List SoR) (ht : T s t) : D.Step s { s with queue := s.queue ++ [t], addedSolv := a } :=
  Q.setQueue s _ a fun hi x hx => (List.mem_append.mp hx).elim (Q.queued hi x) fun e => List.mem_singleton.mp e ▸ ht

theorem Tasks.empty (s : S) : D.Step s { s with queue := [] } := Q.setQueue s [] s.addedSolv fun _ _ h => nomatch h

theorem Tasks.clear (s : S) : D.Step s { s with queue := [], conflicting := [] } := (Q.empty s).trans (Q.scratch rfl)

theorem triple_pushTask (F : S → Prop) (t : Task) (ht : ∀ s, F s → T s t) : Triple D F (pushTask t) (fun _ _ => True) :=
  triple_of_keepsAt fun s hF => keepsAt_quiet (Q.push s.addedSolv (ht s hF)) rfl

theorem triple_queuePackage (F : S → Prop) (n : Nat) (hn : ∀ s, F s → T s (.pkg n)) :
    Triple D F (queuePackage n) (fun _ _ => True) :=
  triple_of_keepsAt fun s hF => keepsAt_get_bind <| keepsAt_ite (fun _ => (keeps_pure _).on _) fun _ =>
    keepsAt_set_bind ((Q.push s.addedSolv (hn s hF)).trans (Q.scratch rfl)) ((keeps_emit Q.scratch _).on _)

theorem Tasks.keeps_queueSolvable (sid : SoR) : Keeps D (queueSolvable sid) :=
  keeps_get_bind fun s => keepsAt_ite (fun _ => (keeps_pure _).on _) fun _ =>
    keepsAt_set_bind (Q.push _ (Q.deps s sid)) ((keeps_emit Q.scratch _).on _)

/-- `on_dependencies_available`, if the tasks it pushes may be run: a package task for every version set the dependencies
    name, a task for every requirement and every constraint -/
theorem Tasks.triple_onDependencies {F : S → Prop} (hF : ∀ s c s', D.Eff s c s' → F s → F s') (U : Universe) (P : Problem)
    (sid : SoR) (d : Deps) (hex : ∀ reason, d = .unknown reason → Triple D F (addExclusionClause sid reason) fun _ _ => True)
    (hT : ∀ reqs cons, d = .known reqs cons → ∀ s, F s →
      (∀ vs ∈ reqs.flatMap U.reqVersionSets ++ cons, T s (.pkg (U.vsName vs))) ∧ (∀ r ∈ reqs, T s (.req sid r)) ∧
        ∀ c ∈ cons, T s (.cons sid c)) :
    Triple D F (onDependencies U P sid d) fun _ _ => True := by
  refine triple_of_within ?_
  unfold onDependencies
  cases d with
  | unknown reason => exact keeps_bind (keeps_within_of_triple hF (hex reason rfl)) fun _ => keeps_pure _
  | known reqs cons =>
    have push : ∀ t, (∀ s, F s → T s t) → Keeps (D.within F) (pushTask t >>= fun _ => pure (ForInStep.yield ())) :=
      fun t ht => keeps_bind (keeps_within_of_triple hF (triple_pushTask Q F t ht)) fun _ => keeps_pure _
    exact keeps_bind (keeps_forIn _ _ fun vs _ hvs => keeps_bind (keeps_within_of_triple hF
        (triple_queuePackage Q F _ fun s h => (hT reqs cons rfl s h).1 vs hvs)) fun _ => keeps_pure _) fun _ =>
      keeps_bind (keeps_forIn _ _ fun r _ hr => push _ fun s h => (hT reqs cons rfl s h).2.1 r hr) fun _ =>
      keeps_bind (keeps_forIn _ _ fun c _ hc => push _ fun s h => (hT reqs cons rfl s h).2.2 c hc) fun _ => keeps_pure _

section sync
variable {U : Universe} {P : Problem} (hrun : ∀ t, Triple D (T · t) (runTask U P t) fun _ _ => True)
include hrun

theorem Tasks.keeps_encodeSync_loop (n : Nat) : Keeps D (encodeSync.loop U P n) := by
  induction n with
  | zero => exact keeps_outOfFuel
  | succ n ih =>
    unfold encodeSync.loop
    refine keeps_get_bind fun s => ?_
    split
    · exact (keeps_pure _).on _
    · next t rest hq =>
      -- the task taken off the work list may be run: it was queued, and taking it off is an effect `T` survives
      have step := Q.setQueue s rest s.addedSolv fun hi x hx => Q.queued hi x (hq ▸ List.mem_cons_of_mem _ hx)
      exact keepsAt_of_inv fun hi => keepsAt_set_bind step
        (keepsAt_of_triple (triple_bind (Q.stable t) (hrun t) fun _ => triple_of_keeps _ ih)
          fun _ => Q.stable t _ _ (step hi).2 (Q.queued hi t (hq ▸ List.mem_cons_self)))

theorem Tasks.keeps_encodeSync (sv : List SoR) (fuel : Nat) : Keeps D (encodeSync U P sv fuel) := by
  unfold encodeSync
  walk using keeps_modify Q.clear, Q.keeps_queueSolvable _, Q.keeps_encodeSync_loop hrun _

end sync

section async
variable {U : Universe} {P : Problem} {A : S → ATask → Prop} {R : TaskResult → S → Prop} (W : Futures D T U P A R)
include W

theorem Tasks.triple_adoptPushed (a : AS) :
    Triple D (fun s => ∀ t ∈ a.tasks, A s t) (adoptPushed U a) fun a1 s => ∀ t ∈ a1.tasks, A s t := by
  intro s hi hF
  obtain ⟨i1, e1⟩ := Q.empty s hi
  refine ⟨i1, e1, fun a1 h1 x hx => W.stable x s _ e1 ?_⟩
  cases h1
  rcases mem_foldl_adoptOne hx with h | ⟨t, ht, h1, h2, h3⟩
  · exact hF x h
  · exact W.adopt s t x (Q.queued hi t ht) h1 h2 h3

theorem Tasks.triple_asyncStep (a : AS) :
    Triple D (fun s => ∀ t ∈ a.tasks, A s t) (asyncStep U P a) fun r s => ∀ a', r = some a' → ∀ t ∈ a'.tasks, A s t := by
  unfold asyncStep
  refine triple_bind (.all W.stable) (Q.triple_adoptPushed W a) fun a1 =>
    triple_weaken (F := fun s => ∀ t ∈ a1.tasks, A s t) ?_ (fun _ h => h.2) fun _ _ h => h
  split
  · next tid rest _ =>
    dsimp only
    split
    · exact triple_pure_ctx _ fun _ h _ e => by cases e; exact h
    · next t hfd =>
      have htm := (find?_id hfd).1
      refine triple_ite (fun _ => triple_pure_ctx _ fun _ h _ e => by cases e; exact h) fun _ => ?_
      -- the poll; what `pollTask_post` says about the values it returns does not depend on the states, so it passes
      -- through the triple as a postcondition (`triple_spec`) and is taken out of the context at once (`triple_assume`)
      refine triple_bind (.all W.stable) (triple_spec (fun v _ => ∃ s s', TaskPost U P t { a1 with ready := rest } s v.1 v.2.1 v.2.2 s')
        (triple_weaken (W.poll t _) (fun _ h => h t htm) fun _ _ h => h) fun s v s' e => ⟨s, s', pollTask_post _ _ e⟩) ?_
      intro (t', a3, res)
      refine triple_assume (fun _ h => h.2.2) fun ⟨_, _, post⟩ => ?_
      -- the future is written back: it has the task and the version sets of the future that was polled
      have hfin : ∀ s, (∀ x ∈ a1.tasks, A s x) →
          ∀ x ∈ a3.tasks.map (fun x => if x.id == tid then t' else x), A s x := by
        intro s h x hx
        obtain ⟨y, hy, rfl⟩ := List.mem_map.mp hx
        split
        · exact W.same s t t' post.task post.vs (h t htm)
        · exact h y (post.frame.tasks ▸ hy)
      cases res with
      | none => exact triple_pure_ctx _ fun s h _ e => by cases e; exact hfin s h.1
      | some r =>
        obtain rfl : r = answerOf U P t'.children t.task := post.res r rfl
        refine triple_bind (.and (.all W.stable) (.and (.all W.stableRes) (Discipline.stable_const _)))
          (triple_weaken (W.callback t t'.children post.vs) (fun _ h => ⟨h.1 t htm, h.2.1 _ rfl⟩) fun _ _ h => h) fun _ => ?_
        exact triple_pure_ctx _ fun s h _ e => by cases e; exact hfin s h.1.1
  · refine triple_ite (fun _ => triple_pure_ctx _ fun _ _ _ e => nomatch e) fun _ => ?_
    refine triple_bind (.all W.stable) (triple_of_keeps_post _ (Q := fun a2 _ => a2.tasks = a1.tasks) (keeps_executorTurn Q.scratch a1)
      fun _ _ _ e => (executorTurn_post _ _ e).frame.tasks) fun a2 => ?_
    exact triple_pure_ctx _ fun s h _ e => by cases e; exact h.2 ▸ h.1

theorem Tasks.triple_encodeAsync_loop (n : Nat) (a : AS) :
    Triple D (fun s => ∀ t ∈ a.tasks, A s t) (encodeAsync.loop U P n a) fun _ _ => True := by
  induction n generalizing a with
  | zero => exact triple_of_keeps _ keeps_outOfFuel
  | succ n ih =>
    unfold encodeAsync.loop
    refine triple_bind (.all W.stable) (Q.triple_asyncStep W a) fun r => ?_
    cases r with
    | none => exact triple_of_keeps _ (keeps_pure _)
    | some a' => exact triple_weaken (ih a') (fun s h => h.2 a' rfl) fun _ _ h => h

theorem Tasks.keeps_encodeAsync (sv : List SoR) (fuel : Nat) : Keeps D (encodeAsync U P sv fuel) := by
  unfold encodeAsync
  have loop : Keeps D (encodeAsync.loop U P fuel {}) :=
    keeps_of_triple (triple_weaken (Q.triple_encodeAsync_loop W fuel {}) (fun _ _ _ h => nomatch h) fun _ _ h => h)
  walk using keeps_modify Q.clear, Q.keeps_queueSolvable _, loop

/-- `Encoder::encode`, whichever way the provider answers -/
theorem Tasks.keeps_encode (hrun : ∀ t, Triple D (T · t) (runTask U P t) fun _ _ => True) (sv : List SoR) (fuel : Nat) :
    Keeps D (encode U P sv fuel) := by
  unfold encode
  walk using Q.keeps_encodeSync hrun _ _, Q.keeps_encodeAsync W _ _

end async

end tasks

/-! ### a discipline that does not look at the work list: every task may be run -/

section quiet
variable {D : Discipline} (O : CallbackPrims D) (hq : D.IgnoresQueue)
include O hq

theorem tasks_of_ignores : Tasks D (fun _ _ => True) :=
  ⟨O.scratch, fun _ => D.stable_const _, fun _ _ _ => trivial, fun s q a _ => hq s q a, fun _ _ => trivial⟩

theorem keeps_encodeSync (hc : ∀ U n, Keeps D (getCandidates U n)) (hd : ∀ U sv, Keeps D (getDeps U sv))
    (U : Universe) (P : Problem) (sv : List SoR) (fuel : Nat) : Keeps D (encodeSync U P sv fuel) :=
  (tasks_of_ignores O hq).keeps_encodeSync (fun t => triple_of_keeps _ (keeps_runTask O hc hd U P t)) sv fuel

theorem keeps_encode (hc : ∀ U n, Keeps D (getCandidates U n)) (hd : ∀ U sv, Keeps D (getDeps U sv))
    (hpc : ∀ U tid n w a, Keeps D (pollCands U tid n w a)) (hsd : ∀ sv, Keeps D (startDeps sv)) (hfd : ∀ sv, Keeps D (finishDeps sv))
    (U : Universe) (P : Problem) (sv : List SoR) (fuel : Nat) : Keeps D (encode U P sv fuel) :=
  (tasks_of_ignores O hq).keeps_encode (A := fun _ _ => True) (R := fun _ _ => True)
    ⟨fun _ => D.stable_const _, fun _ => D.stable_const _, fun _ _ _ _ _ _ _ => trivial, fun _ _ _ _ _ _ => trivial,
     fun t a => triple_weaken (triple_of_keeps _ (keeps_pollTask O.scratch hpc hsd hfd U P t a)) (fun _ h => h) fun _ _ _ _ _ => trivial,
     fun _ _ _ => triple_of_keeps _ (keeps_runCallback O U P _)⟩
    (fun t => triple_of_keeps _ (keeps_runTask O hc hd U P t)) sv fuel

end quiet

end Resolvo.MDet
