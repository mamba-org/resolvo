import Resolvo.MDet.Checked
import Resolvo.Abs.Fail
import Resolvo.Abs.Preferred
import Resolvo.RenderTruth
import Resolvo.Supported
import Resolvo.Basics
namespace Resolvo.MDet
open Resolvo Resolvo.Abs

/-! `checkOutcome` is a chain of guards that answer `checkFailed`: any other answer passed every guard on its way. -/

theorem checkOutcome_ok {U : Universe} {P : Problem} {o : Outcome} {h : List Ev} {sol : List Nat}
    (hc : checkOutcome U P o h = .ok sol) :
    validB U P sol (exemptOf P sol) = true ∧ supportedB U P sol = true ∧
      ∃ st, runOptD U P (absEvents h) = some st ∧ sol = st.trueSolvables := by
  unfold checkOutcome at hc
  cases hrun : runOptD U P (absEvents h) with
  | none => rw [hrun] at hc; cases o <;> cases hc
  | some st =>
    rw [hrun] at hc
    cases o with
    | stop w => cases hc
    | unsat c => cases (ite_eq_of_left_ne (ite_eq_of_left_ne (ite_eq_of_left_ne hc nofun).2 nofun).2 nofun).2
    | ok s0 =>
      obtain ⟨hne, hc⟩ := ite_eq_of_left_ne hc nofun
      obtain ⟨hv, hc⟩ := ite_eq_of_right_ne hc nofun
      obtain ⟨hs, hc⟩ := ite_eq_of_right_ne hc nofun
      cases hc
      exact ⟨hv, hs, st, rfl, by simpa using hne⟩

theorem checkOutcome_unsat {U : Universe} {P : Problem} {o : Outcome} {h : List Ev} {c : List Nat}
    (hc : checkOutcome U P o h = .unsat c) :
    ∃ st, runOpt U P (absEvents h) = some st ∧ st.failed.isSome = true ∧ (∀ id ∈ c, id < st.db.length) ∧
      graphSelfContainedB (conflictGraphOf U st c) = true := by
  unfold checkOutcome at hc
  cases hrun : runOptD U P (absEvents h) with
  | none => rw [hrun] at hc; cases o <;> cases hc
  | some st =>
    rw [hrun] at hc
    cases o with
    | stop w => cases hc
    | ok sol => cases (ite_eq_of_right_ne (ite_eq_of_right_ne (ite_eq_of_left_ne hc nofun).2 nofun).2 nofun).2
    | unsat c0 =>
      obtain ⟨hf, hc⟩ := ite_eq_of_left_ne hc nofun
      obtain ⟨hids, hc⟩ := ite_eq_of_left_ne hc nofun
      obtain ⟨hg, hc⟩ := ite_eq_of_left_ne hc nofun
      cases hc
      exact ⟨st, runOptD_runOpt U P _ {} st hrun, Option.isSome_iff_ne_none.mpr (by simpa using hf), by simpa using hids,
        by simpa using hg⟩

/-- without soft requirements nothing is exempt and the hard problem is the problem -/
theorem valid_of_soft_nil {U : Universe} {P : Problem} {sol : List Nat} (hsoft : P.soft = [])
    (hv : validB U P sol (exemptOf P sol) = true) : Valid U P.hard sol [] ∧ Valid U P sol [] := by
  have he : exemptOf P sol = [] := by rw [exemptOf, hsoft]; rfl
  have hv := (validB_iff U P sol []).mp (he ▸ hv)
  have hp : P.hard = P := by cases P; cases hsoft; rfl
  exact ⟨hp.symm ▸ hv, hv⟩

theorem solveChecked_fst {U : Universe} {P : Problem} {fuel : Nat} {s : S} {r : Checked} (h : (solveChecked U P fuel s).1 = r) :
    checkOutcome U P (solveRun U P fuel { s with trace := [] }).1 (solveRun U P fuel { s with trace := [] }).2.trace.reverse = r := by
  unfold solveChecked at h
  -- with the run opaque the projections of the pair reduce at once; otherwise `solveRun` is unfolded in search of a pair
  generalize solveRun U P fuel _ = p at h ⊢
  exact h

/-- **C01 for the checked model**: every solution it returns is valid (full statement, with the
    soft exemption) — for all universes, problems, cancellation plans, cache states and fuel. -/
theorem solveChecked_ok_valid (U : Universe) (P : Problem) (fuel : Nat) (s : S) (sol : List Nat)
    (h : (solveChecked U P fuel s).1 = .ok sol) : Valid U P sol (exemptOf P sol) :=
  (validB_iff U P sol _).mp (checkOutcome_ok (solveChecked_fst h)).1

/-- **C05 for the checked model**: every returned solvable is supported. -/
theorem solveChecked_ok_supported (U : Universe) (P : Problem) (fuel : Nat) (s : S) (sol : List Nat)
    (h : (solveChecked U P fuel s).1 = .ok sol) : ∀ x ∈ sol, Resolvo.C05.Supported U P sol x :=
  Resolvo.C05.supportedB_sound U P sol (checkOutcome_ok (solveChecked_fst h)).2.1

/-- **C02(a) for the checked model**: Unsolvable is only reported when the hard problem has no solution. -/
theorem solveChecked_unsat_sound (U : Universe) (P : Problem) (fuel : Nat) (s : S) (c : List Nat)
    (h : (solveChecked U P fuel s).1 = .unsat c) : ¬ Solvable U P :=
  let ⟨st, hr, hf, _⟩ := checkOutcome_unsat (solveChecked_fst h)
  fail_sound U P _ st hr hf

/-- **C14(a) for the checked model**: soft requirements never turn a solvable problem into an error. -/
theorem solveChecked_soft_never_error (U : Universe) (P : Problem) (fuel : Nat) (s : S)
    (hs : Solvable U P) : ∀ c, (solveChecked U P fuel s).1 ≠ .unsat c :=
  fun c hc => solveChecked_unsat_sound U P fuel s c hc hs

/-- The two verdicts are exclusive with the truth: a returned solution of a problem without soft
    requirements witnesses solvability. -/
theorem solveChecked_ok_solvable (U : Universe) (P : Problem) (fuel : Nat) (s : S) (sol : List Nat)
    (hsoft : P.soft = []) (h : (solveChecked U P fuel s).1 = .ok sol) : Solvable U P :=
  ⟨sol, (valid_of_soft_nil hsoft (checkOutcome_ok (solveChecked_fst h)).1).1⟩

/-- **C07 for the checked model**: when the first choices are mutually compatible, the checked model returns
    exactly them — for all universes, problems without soft requirements, solver states and fuel. -/
theorem solveChecked_preferred (U : Universe) (P : Problem) (fuel : Nat) (s : S) (sol pref : List Nat)
    (hsoft : P.soft = []) (hpc : preferredConsistent U P = some pref)
    (h : (solveChecked U P fuel s).1 = .ok sol) : ∀ x, x ∈ sol ↔ x ∈ pref :=
  let ⟨hv, _, st, hrun, hsol⟩ := checkOutcome_ok (solveChecked_fst h)
  preferred_exact U P hsoft pref hpc _ st hrun sol hsol (valid_of_soft_nil hsoft hv).2

/-- **C03 for the checked model**: an Unsolvable answer comes with a conflict graph (the exact model of `Conflict::graph`
    applied to the blamed clauses of the accepted history) in which every edge states a true fact of the provider's data,
    every node is reachable from the root, and the facts shown in the graph alone — with one-solvable-per-package for the
    nodes joined by forbid edges — admit no selection that installs the root. -/
theorem solveChecked_unsat_graph (U : Universe) (P : Problem) (fuel : Nat) (s : S) (c : List Nat)
    (h : (solveChecked U P fuel s).1 = .unsat c) :
    ∃ st, runOpt U P (absEvents (solveRun U P fuel { s with trace := [] }).2.trace.reverse) = some st ∧
      (∀ x ∈ Resolvo.Render.nodeEdges (conflictGraphOf U st c), Resolvo.Render.EdgeTrue U P x.1 x.2.1 x.2.2) ∧
      Resolvo.Graph.reachableB (graphEdges (conflictGraphOf U st c)) (conflictGraphOf U st c).nodes.toList = true ∧
      ¬ ∃ a, Resolvo.Sat.evalCnf a (Resolvo.Graph.cnfOfGraph (graphEdges (conflictGraphOf U st c))) = true := by
  obtain ⟨st, hr, _, hids, hg⟩ := checkOutcome_unsat (solveChecked_fst h)
  have hg := Bool.and_eq_true_iff.mp hg
  exact ⟨st, hr, Resolvo.Render.buildGraph_edges_true U P st (runOpt_inv hr).2 c hids, hg.1,
    (Resolvo.Graph.graphRefutes_iff _).mp hg.2⟩

end Resolvo.MDet
