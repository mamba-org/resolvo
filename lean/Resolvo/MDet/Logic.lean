import Resolvo.MDet.State
/-!
# A program logic for the model's monad

Every run-level theorem about the model has the same shape: from a state that satisfies an invariant, a computation
ends in a state that satisfies it again, and the two states are related by an *effect* that composes along a run
(the log grew by a well-formed chunk, the variable map was only extended, nothing changed in some view, …).
`Discipline` packages such a pair, `Keeps D x` says that `x` respects it, `Triple D F x G` adds a context `F` of
facts that survive every effect and a postcondition `G`. The rules are proved once here; `MDet/Walk.lean` carries an
arbitrary discipline through the functions of the model.
-/
namespace Resolvo.MDet
open Resolvo

def runM {α : Type} (x : M α) (s : S) : Except Stop α × S := x.run.run s

@[simp] theorem runM_pure {α : Type} (a : α) (s : S) : runM (pure a : M α) s = (.ok a, s) := rfl

@[simp] theorem runM_bind {α β : Type} (x : M α) (f : α → M β) (s : S) :
    runM (x >>= f) s = match runM x s with
      | (.ok a, s') => runM (f a) s'
      | (.error e, s') => (.error e, s') := by
  unfold runM
  simp only [ExceptT.run_bind, StateT.run_bind]
  cases h : (ExceptT.run x).run s with
  | mk r s' => cases r <;> simp <;> rfl

@[simp] theorem runM_map {α β : Type} (f : α → β) (x : M α) (s : S) :
    runM (f <$> x) s = match runM x s with
      | (.ok a, s') => (.ok (f a), s')
      | (.error e, s') => (.error e, s') := by
  have : f <$> x = x >>= fun a => pure (f a) := (bind_pure_comp f x).symm
  rw [this, runM_bind]
  cases runM x s with
  | mk r s' => cases r <;> rfl

@[simp] theorem runM_get (s : S) : runM (get : M S) s = (.ok s, s) := rfl
@[simp] theorem runM_set (s' s : S) : runM (set s' : M Unit) s = (.ok (), s') := rfl
@[simp] theorem runM_modify (f : S → S) (s : S) : runM (modify f : M Unit) s = (.ok (), f s) := rfl
@[simp] theorem runM_throw {α : Type} (e : Stop) (s : S) : runM (throw e : M α) s = (.error e, s) := rfl

theorem runM_pollCancel (s : S) : runM pollCancel s =
    if fires s then (.error (.cancelled (7000 + s.polls)), { s with polls := s.polls + 1, log := s!"P{s.polls}" :: s.log, glog := .poll s.polls true :: s.glog })
    else (.ok (), { s with polls := s.polls + 1, log := s!"p{s.polls}" :: s.log, glog := .poll s.polls false :: s.glog }) := rfl

theorem runM_bind_ok {α β : Type} {x : M α} {k : α → M β} {s s' : S} {b : β} (h : runM (x >>= k) s = (.ok b, s')) :
    ∃ a s1, runM x s = (.ok a, s1) ∧ runM (k a) s1 = (.ok b, s') := by
  rw [runM_bind] at h
  cases hx : runM x s with
  | mk r s1 =>
    rw [hx] at h
    cases r with
    | error e => cases h
    | ok a => exact ⟨a, s1, rfl, h⟩

/-! ### postconditions

`PostAt x s Q`: every normal end of `x` from `s` satisfies `Q`. The rules follow the shape of a `do` block, so a
function of the model is walked by applying them (no run equation is taken apart). -/

def PostAt {α : Type} (x : M α) (s : S) (Q : α → S → Prop) : Prop := ∀ r s', runM x s = (.ok r, s') → Q r s'

theorem PostAt.pure {α : Type} {a : α} {s : S} {Q : α → S → Prop} (h : Q a s) : PostAt (pure a) s Q :=
  fun _ _ e => by cases e; exact h
theorem PostAt.throw {α : Type} {e : Stop} {s : S} {Q : α → S → Prop} : PostAt (throw e) s Q :=
  fun _ _ h => by cases h
theorem PostAt.bind {α β : Type} {x : M α} {k : α → M β} {s : S} {Q1 : α → S → Prop} {Q : β → S → Prop}
    (hx : PostAt x s Q1) (hk : ∀ a s1, Q1 a s1 → PostAt (k a) s1 Q) : PostAt (x >>= k) s Q :=
  fun r s' e => let ⟨a, s1, h1, h2⟩ := runM_bind_ok e; hk a s1 (hx a s1 h1) r s' h2
/-- a computation that cannot fail is run (`h` is `rfl` for `get`, `set`, `modify` and sequences of them) … -/
theorem PostAt.eval {α : Type} {x : M α} {s s1 : S} {a : α} {Q : α → S → Prop} (h : runM x s = (.ok a, s1)) (hq : Q a s1) :
    PostAt x s Q := fun _ _ e => by rw [h] at e; cases e; exact hq
/-- … also as the first part of a sequence -/
theorem PostAt.run {α β : Type} {x : M α} {k : α → M β} {s s1 : S} {a : α} {Q : β → S → Prop}
    (h : runM x s = (.ok a, s1)) (hk : PostAt (k a) s1 Q) : PostAt (x >>= k) s Q :=
  .bind (.eval (Q := fun b s2 => b = a ∧ s2 = s1) h ⟨rfl, rfl⟩) fun _ _ e => e.1 ▸ e.2 ▸ hk
theorem PostAt.ite {α : Type} {c : Prop} [Decidable c] {x y : M α} {s : S} {Q : α → S → Prop}
    (h1 : c → PostAt x s Q) (h2 : ¬c → PostAt y s Q) : PostAt (if c then x else y) s Q :=
  iteInduction (motive := (PostAt · s Q)) h1 h2

theorem PostAt.seq {α β : Type} {x : M α} {k : α → M β} {s : S} {Q : β → S → Prop} (hk : ∀ a s1, PostAt (k a) s1 Q) :
    PostAt (x >>= k) s Q := .bind (Q1 := fun _ _ => True) (fun _ _ _ => trivial) fun a s1 _ => hk a s1

/-- a loop with an accumulator whose body always yields, for an invariant that relates the accumulator to the elements
    processed so far -/
theorem PostAt.forIn {γ δ : Type} {body : γ → δ → M (ForInStep δ)} (I : List γ → δ → Prop) (xs : List γ)
    (h : ∀ pre x b s, I pre b → PostAt (body x b) s fun r _ => ∃ b', r = .yield b' ∧ I (pre ++ [x]) b')
    (pre : List γ) (init : δ) (s : S) (hI : I pre init) : PostAt (forIn xs init body) s fun b _ => I (pre ++ xs) b := by
  induction xs generalizing pre init s with
  | nil => exact .pure (by simpa using hI)
  | cons x xs ih =>
    rw [List.forIn_cons]
    refine .bind (h pre x init s hI) fun r s1 ⟨b', hr, hI'⟩ => ?_
    subst hr
    simpa using ih (pre ++ [x]) b' s1 hI'

theorem pollCancel_post {s : S} : PostAt pollCancel s fun _ s' =>
    s' = { s with polls := s.polls + 1, log := s!"p{s.polls}" :: s.log, glog := .poll s.polls false :: s.glog } := by
  intro _ _ h
  rw [runM_pollCancel] at h
  split at h <;> cases h
  rfl

/-- the cancellation value a run ended with, if it ended `cancelled`: all an effect may know about the outcome -/
def cancelOf {α : Type} : Except Stop α → Option Nat
  | .error (.cancelled v) => some v
  | _ => none

/-- An invariant of solver states and an effect relation between the state before and after a run (given the
    cancellation value the run ended with); effects compose along a run. Only the call-log discipline looks at the
    cancellation value; one that does not is `Blind` (`MDet/Walk.lean`). -/
structure Discipline where
  Inv : S → Prop
  Eff : S → Option Nat → S → Prop
  refl : ∀ s, Eff s none s
  trans : ∀ {s s1 s2 c}, Eff s none s1 → Eff s1 c s2 → Eff s c s2

namespace Discipline

def ofInv (I : S → Prop) : Discipline := ⟨I, fun _ _ _ => True, fun _ => trivial, fun _ _ => trivial⟩

def ofRel (R : S → S → Prop) (refl : ∀ s, R s s) (trans : ∀ {a b c}, R a b → R b c → R a c) : Discipline :=
  ⟨fun _ => True, fun s _ s' => R s s', refl, trans⟩

variable (D : Discipline)

/-- replacing `s` by `s'` silently is allowed -/
def Step (s s' : S) : Prop := D.Inv s → D.Inv s' ∧ D.Eff s none s'

theorem Step.rfl {D : Discipline} {s : S} : D.Step s s := fun h => ⟨h, D.refl s⟩
theorem Step.trans {D : Discipline} {a b c : S} (h1 : D.Step a b) (h2 : D.Step b c) : D.Step a c :=
  fun h => ⟨(h2 (h1 h).1).1, D.trans (h1 h).2 (h2 (h1 h).1).2⟩

theorem Step.ite {D : Discipline} {s a b : S} {c : Prop} [Decidable c] (h1 : D.Step s a) (h2 : D.Step s b) :
    D.Step s (if c then a else b) := by split <;> assumption

/-- a state predicate that survives every effect of the discipline -/
def Stable (F : S → Prop) : Prop := ∀ s s', D.Eff s none s' → F s → F s'

/-- the effect does not look at how the run ended -/
@[reducible] def Blind : Prop := ∀ {s s' : S} {c : Option Nat}, D.Eff s none s' → D.Eff s c s'

end Discipline

variable {D : Discipline}

/-- `x`, run from `s`, respects the discipline -/
def KeepsAt (D : Discipline) {α : Type} (x : M α) (s : S) : Prop :=
  D.Inv s → D.Inv (runM x s).2 ∧ D.Eff s (cancelOf (runM x s).1) (runM x s).2

structure Keeps (D : Discipline) {α : Type} (x : M α) : Prop where
  on : ∀ s, KeepsAt D x s

theorem keepsAt_def {α : Type} {x : M α} {s : S} :
    KeepsAt D x s ↔ (D.Inv s → D.Inv (runM x s).2 ∧ D.Eff s (cancelOf (runM x s).1) (runM x s).2) := Iff.rfl

theorem keepsAt_ofInv {α : Type} {I : S → Prop} {x : M α} {s : S} : KeepsAt (.ofInv I) x s ↔ (I s → I (runM x s).2) :=
  ⟨fun h hi => (h hi).1, fun h hi => ⟨h hi, trivial⟩⟩

theorem keepsAt_quiet {α : Type} {x : M α} {s : S} (hs : D.Step s (runM x s).2) (hc : cancelOf (runM x s).1 = none) :
    KeepsAt D x s := fun h => by rw [hc]; exact hs h

theorem keeps_pure {α : Type} (a : α) : Keeps D (pure a : M α) := ⟨fun _ => keepsAt_quiet .rfl rfl⟩
theorem keeps_get : Keeps D (get : M S) := ⟨fun _ => keepsAt_quiet .rfl rfl⟩
theorem keeps_panic {α : Type} (site : String) : Keeps D (panic site : M α) := ⟨fun _ => keepsAt_quiet .rfl rfl⟩
theorem keeps_outOfFuel {α : Type} : Keeps D (throw Stop.outOfFuel : M α) := ⟨fun _ => keepsAt_quiet .rfl rfl⟩
theorem keepsAt_set {s s' : S} (h : D.Step s s') : KeepsAt D (set s' : M Unit) s := keepsAt_quiet h rfl
theorem keeps_modify {g : S → S} (h : ∀ s, D.Step s (g s)) : Keeps D (modify g : M Unit) := ⟨fun s => keepsAt_quiet (h s) rfl⟩

theorem keepsAt_bind {α β : Type} {x : M α} {k : α → M β} {s : S} (hx : KeepsAt D x s)
    (hk : ∀ a s1, runM x s = (.ok a, s1) → KeepsAt D (k a) s1) : KeepsAt D (x >>= k) s := by
  intro hs
  have h1 := hx hs
  rw [runM_bind]
  cases h : runM x s with
  | mk r s1 =>
    rw [h] at h1
    cases r with
    | error e => cases e <;> exact h1
    | ok a => exact ⟨(hk a s1 h h1.1).1, D.trans h1.2 (hk a s1 h h1.1).2⟩

theorem keeps_bind {α β : Type} {x : M α} {k : α → M β} (hx : Keeps D x) (hk : ∀ a, Keeps D (k a)) : Keeps D (x >>= k) :=
  ⟨fun s => keepsAt_bind (hx.on s) (fun a s1 _ => (hk a).on s1)⟩

/-- sequencing where the continuation needs a fact about the value the first part returned -/
theorem keeps_bind_post {α β : Type} {x : M α} {k : α → M β} {Q : α → Prop} (hx : Keeps D x)
    (hq : ∀ s, PostAt x s fun a _ => Q a) (hk : ∀ a, Q a → Keeps D (k a)) : Keeps D (x >>= k) :=
  ⟨fun s => keepsAt_bind (hx.on s) fun a s1 e => (hk a (hq s a s1 e)).on s1⟩

theorem keepsAt_get_bind {β : Type} {k : S → M β} {s : S} (hk : KeepsAt D (k s) s) : KeepsAt D (get >>= k) s :=
  keepsAt_bind (keeps_get.on s) (fun a s1 h => by cases h; exact hk)

/-- `let s ← get; …` where the continuation only has to behave when run from the state it was handed -/
theorem keeps_get_bind {β : Type} {k : S → M β} (hk : ∀ s, KeepsAt D (k s) s) : Keeps D (get >>= k) :=
  ⟨fun s => keepsAt_get_bind (hk s)⟩

theorem keepsAt_set_bind {β : Type} {s' s : S} {k : Unit → M β} (h : D.Step s s') (hk : KeepsAt D (k ()) s') :
    KeepsAt D (set s' >>= k) s :=
  keepsAt_bind (keepsAt_set h) (fun _ s1 h1 => by cases h1; exact hk)

theorem keepsAt_modify_bind {β : Type} {g : S → S} {s : S} {k : Unit → M β} (h : D.Step s (g s)) (hk : KeepsAt D (k ()) (g s)) :
    KeepsAt D (modify g >>= k) s :=
  keepsAt_bind (keepsAt_quiet h rfl) (fun _ s1 h1 => by cases h1; exact hk)

theorem keeps_ite {α : Type} {c : Prop} [Decidable c] {x y : M α} (hx : c → Keeps D x) (hy : ¬c → Keeps D y) :
    Keeps D (if c then x else y) := iteInduction hx hy

theorem keepsAt_ite {α : Type} {c : Prop} [Decidable c] {x y : M α} {s : S} (hx : c → KeepsAt D x s) (hy : ¬c → KeepsAt D y s) :
    KeepsAt D (if c then x else y) s := iteInduction (motive := (KeepsAt D · s)) hx hy

theorem keeps_panic_bind {α β : Type} (site : String) (k : α → M β) : Keeps D ((panic site : M α) >>= k) :=
  ⟨fun _ => keepsAt_quiet .rfl rfl⟩

/-- a run that amounts to a silent step -/
theorem keepsAt_of_step {α : Type} (hb : D.Blind) {x : M α} {s : S} (h : D.Step s (runM x s).2) : KeepsAt D x s :=
  fun hi => ⟨(h hi).1, hb (h hi).2⟩

/-- a state-dependent shortcut: the invariant at `s` may be used to decide how to show `KeepsAt … s` -/
theorem keepsAt_of_inv {α : Type} {x : M α} {s : S} (h : D.Inv s → KeepsAt D x s) : KeepsAt D x s := fun hi => h hi hi

/-! ### triples: a context of stable facts and a postcondition -/

/-- from a state satisfying the invariant and the context `F`, `x` respects the discipline and its result satisfies `G` -/
def Triple (D : Discipline) {α : Type} (F : S → Prop) (x : M α) (G : α → S → Prop) : Prop :=
  ∀ s, D.Inv s → F s →
    D.Inv (runM x s).2 ∧ D.Eff s (cancelOf (runM x s).1) (runM x s).2 ∧ ∀ a, (runM x s).1 = .ok a → G a (runM x s).2

theorem Discipline.stable_const (p : Prop) : D.Stable (fun _ => p) := fun _ _ _ h => h
theorem Discipline.Stable.and {F G : S → Prop} (hF : D.Stable F) (hG : D.Stable G) : D.Stable (fun s => F s ∧ G s) :=
  fun s s' e h => ⟨hF s s' e h.1, hG s s' e h.2⟩

theorem Discipline.Stable.all {ι : Type} {p : ι → Prop} {F : ι → S → Prop} (h : ∀ i, D.Stable (F i)) :
    D.Stable (fun s => ∀ i, p i → F i s) := fun s s' e hF i hi => h i s s' e (hF i hi)

theorem triple_of_keepsAt {α : Type} {F : S → Prop} {x : M α} (h : ∀ s, F s → KeepsAt D x s) : Triple D F x (fun _ _ => True) :=
  fun s hi hF => ⟨(h s hF hi).1, (h s hF hi).2, fun _ _ => trivial⟩

theorem triple_of_keeps {α : Type} {x : M α} (F : S → Prop) (h : Keeps D x) : Triple D F x (fun _ _ => True) :=
  triple_of_keepsAt fun s _ => h.on s

theorem keepsAt_of_triple {α : Type} {F : S → Prop} {x : M α} {G : α → S → Prop} {s : S} (h : Triple D F x G)
    (hF : D.Inv s → F s) : KeepsAt D x s := fun hi => ⟨(h s hi (hF hi)).1, (h s hi (hF hi)).2.1⟩

theorem keeps_of_triple {α : Type} {x : M α} {G : α → S → Prop} (h : Triple D (fun _ => True) x G) : Keeps D x :=
  ⟨fun _ => keepsAt_of_triple h (fun _ => trivial)⟩

theorem triple_weaken {α : Type} {F F' : S → Prop} {x : M α} {G G' : α → S → Prop}
    (h : Triple D F x G) (hpre : ∀ s, F' s → F s) (hpost : ∀ a s, G a s → G' a s) : Triple D F' x G' :=
  fun s hi hp => let ⟨a, b, c⟩ := h s hi (hpre s hp); ⟨a, b, fun r hr => hpost r _ (c r hr)⟩

/-- a triple used in the middle of a run that began in `s0` -/
theorem triple_at {α : Type} {F : S → Prop} {x : M α} {G : α → S → Prop} (h : Triple D F x G) {s0 s1 : S} (hi : D.Inv s1)
    (hF : F s1) (he : D.Eff s0 none s1) :
    D.Inv (runM x s1).2 ∧ D.Eff s0 (cancelOf (runM x s1).1) (runM x s1).2 ∧ ∀ a, (runM x s1).1 = .ok a → G a (runM x s1).2 :=
  let ⟨a, b, c⟩ := h s1 hi hF; ⟨a, D.trans he b, c⟩

/-- a fact the context implies (in any state) may be assumed outright -/
theorem triple_assume {α : Type} {F : S → Prop} {x : M α} {G : α → S → Prop} {p : Prop} (hp : ∀ s, F s → p)
    (h : p → Triple D F x G) : Triple D F x G := fun s hi hF => h (hp s hF) s hi hF

theorem triple_spec {α : Type} {F : S → Prop} {x : M α} {G : α → S → Prop} (Q : α → S → Prop) (h : Triple D F x G)
    (hq : ∀ s, PostAt x s Q) : Triple D F x (fun v s => G v s ∧ Q v s) :=
  fun s hi hF => let ⟨i, e, p⟩ := h s hi hF; ⟨i, e, fun a ha => ⟨p a ha, hq s a _ (Prod.ext ha rfl)⟩⟩

theorem triple_of_keeps_post {α : Type} {x : M α} (F : S → Prop) {Q : α → S → Prop} (h : Keeps D x) (hq : ∀ s, PostAt x s Q) :
    Triple D F x Q := triple_weaken (triple_spec Q (triple_of_keeps F h) hq) (fun _ h => h) fun _ _ h => h.2

/-- `let s ← get; …`: the continuation is run from the state it was handed … -/
theorem triple_get_bind_at {β : Type} {F : S → Prop} {k : S → M β} {H : β → S → Prop}
    (hk : ∀ s0, Triple D (fun s => F s ∧ s = s0) (k s0) H) : Triple D F (get >>= k) H :=
  fun s hi hF => by rw [runM_bind, runM_get]; exact hk s s hi ⟨hF, rfl⟩

/-- … which most continuations do not care about -/
theorem triple_get_bind {β : Type} {F : S → Prop} {k : S → M β} {H : β → S → Prop} (hk : ∀ s0, Triple D F (k s0) H) :
    Triple D F (get >>= k) H := triple_get_bind_at fun s0 s hi hF => hk s0 s hi hF.1

theorem triple_pure_ctx {α : Type} {F : S → Prop} (a : α) {G : α → S → Prop} (h : ∀ s, F s → G a s) :
    Triple D F (pure a : M α) G := fun s hi hF => ⟨hi, D.refl s, fun r hr => by cases hr; exact h s hF⟩

theorem triple_panic_bind {α β : Type} (F : S → Prop) (site : String) (k : α → M β) (G : β → S → Prop) :
    Triple D F ((panic site : M α) >>= k) G := fun s hi _ => ⟨hi, D.refl s, fun a ha => by cases ha⟩

theorem triple_ite {α : Type} {F : S → Prop} {c : Prop} [Decidable c] {x y : M α} {G : α → S → Prop}
    (hx : c → Triple D F x G) (hy : ¬c → Triple D F y G) : Triple D F (if c then x else y) G :=
  iteInduction (motive := (Triple D F · G)) hx hy

/-- sequencing: the context is carried across (it is stable) and the postcondition of the first joins it -/
theorem triple_bind {α β : Type} {F : S → Prop} {x : M α} {G : α → S → Prop} {k : α → M β} {H : β → S → Prop}
    (hF : D.Stable F) (hx : Triple D F x G) (hk : ∀ a, Triple D (fun s => F s ∧ G a s) (k a) H) : Triple D F (x >>= k) H := by
  intro s hi hp
  obtain ⟨i1, e1, p1⟩ := hx s hi hp
  rw [runM_bind]
  cases h : runM x s with
  | mk r s1 =>
    rw [h] at i1 e1 p1
    cases r with
    | error e => exact ⟨i1, by cases e <;> exact e1, fun a ha => by cases ha⟩
    | ok a =>
      obtain ⟨i2, e2, p2⟩ := hk a s1 i1 ⟨hF s s1 e1 hp, p1 a rfl⟩
      exact ⟨i2, D.trans e1 e2, p2⟩

theorem triple_bind_keeps {α β : Type} {F : S → Prop} {x : M α} {G : α → S → Prop} {k : α → M β} (hx : Triple D F x G)
    (hk : ∀ a, Keeps D (k a)) : Triple D F (x >>= k) (fun _ _ => True) :=
  triple_of_keepsAt fun _ hp => keepsAt_bind (keepsAt_of_triple hx fun _ => hp) fun a s1 _ => (hk a).on s1

/-- a loop with an accumulator whose body always yields: `I done acc` relates the accumulator to the elements processed so far -/
theorem triple_forIn_inv {γ δ : Type} {F : S → Prop} (hF : D.Stable F) (I : List γ → δ → S → Prop)
    (body : γ → δ → M (ForInStep δ)) (xs : List γ) (pre : List γ) (init : δ)
    (h : ∀ pre' x b, x ∈ xs →
      Triple D (fun s => F s ∧ I pre' b s) (body x b) (fun r s => ∃ b', r = .yield b' ∧ I (pre' ++ [x]) b' s)) :
    Triple D (fun s => F s ∧ I pre init s) (forIn xs init body) (fun b s => I (pre ++ xs) b s) := by
  induction xs generalizing pre init with
  | nil => exact fun s hi hp => ⟨hi, D.refl s, fun a ha => by cases ha; simpa using hp.2⟩
  | cons x xs ih =>
    rw [List.forIn_cons]
    -- the context of the rest of the loop is `F` and the loop invariant after `x`; `F` alone is stable
    refine triple_weaken (F := fun s => F s ∧ I pre init s) (G := fun b s => I (pre ++ [x] ++ xs) b s) ?_
      (fun _ h => h) (fun _ _ h => by simpa using h)
    intro s hi hp
    obtain ⟨i1, e1, p1⟩ := h pre x init List.mem_cons_self s hi hp
    rw [runM_bind]
    cases hr : runM (body x init) s with
    | mk r s1 =>
      rw [hr] at i1 e1 p1
      cases r with
      | error e => exact ⟨i1, by cases e <;> exact e1, fun a ha => by cases ha⟩
      | ok r =>
        obtain ⟨b', rfl, hI⟩ := p1 r rfl
        obtain ⟨i2, e2, p2⟩ :=
          ih (pre ++ [x]) b' (fun pre' y b hy => h pre' y b (List.mem_cons_of_mem _ hy)) s1 i1 ⟨hF s s1 e1 hp.1, hI⟩
        exact ⟨i2, D.trans e1 e2, p2⟩

theorem triple_forIn {γ δ : Type} {F : S → Prop} (hF : D.Stable F) (xs : List γ) (init : δ) (body : γ → δ → M (ForInStep δ))
    (h : ∀ x b, x ∈ xs → Triple D F (body x b) (fun _ _ => True)) : Triple D F (forIn xs init body) (fun _ _ => True) := by
  induction xs generalizing init with
  | nil => exact triple_pure_ctx init fun _ _ => trivial
  | cons x xs ih =>
    rw [List.forIn_cons]
    refine triple_bind hF (h x init List.mem_cons_self) (fun r => triple_weaken (F := F) ?_ (fun _ h => h.1) (fun _ _ h => h))
    cases r with
    | done b => exact triple_pure_ctx b fun _ _ => trivial
    | yield b => exact ih b (fun x b hx => h x b (List.mem_cons_of_mem _ hx))

theorem keeps_forIn {γ δ : Type} (xs : List γ) (init : δ) {body : γ → δ → M (ForInStep δ)}
    (h : ∀ x b, x ∈ xs → Keeps D (body x b)) : Keeps D (forIn xs init body) :=
  keeps_of_triple (triple_forIn (D.stable_const True) xs init body fun x b hx => triple_of_keeps _ (h x b hx))

/-! ### a context as part of the invariant

A context that survives every effect may be added to the invariant: what `D.within F` keeps, `D` keeps from states
that satisfy `F` (`triple_of_within`), and whatever is shown for an arbitrary discipline holds with a context.
As part of the invariant the context must hold at the end of a cancelled run too, so it has to survive the effect
with any cancellation value (`hF`), where `Stable` — enough to carry a context along a sequence — asks for `none` only. -/

def Discipline.within (D : Discipline) (F : S → Prop) : Discipline := ⟨fun s => D.Inv s ∧ F s, D.Eff, D.refl, D.trans⟩

section within
variable {F : S → Prop} (hF : ∀ s c s', D.Eff s c s' → F s → F s')
include hF

theorem Discipline.step_within {s s' : S} (h : D.Inv s → F s → D.Inv s' ∧ D.Eff s none s') : (D.within F).Step s s' :=
  fun hi => let ⟨a, b⟩ := h hi.1 hi.2; ⟨⟨a, hF _ _ _ b hi.2⟩, b⟩

theorem Discipline.Step.within {s s' : S} (h : D.Step s s') : (D.within F).Step s s' := D.step_within hF fun hi _ => h hi

theorem keeps_within_of_triple {α : Type} {x : M α} {G : α → S → Prop} (h : Triple D F x G) : Keeps (D.within F) x :=
  ⟨fun s => keepsAt_def.mpr fun hi => let ⟨a, b, _⟩ := h s hi.1 hi.2; ⟨⟨a, hF _ _ _ b hi.2⟩, b⟩⟩

theorem Keeps.within {α : Type} {x : M α} (h : Keeps D x) : Keeps (D.within F) x :=
  keeps_within_of_triple hF (triple_of_keeps F h)

end within

theorem triple_of_within {α : Type} {F : S → Prop} {x : M α} (h : Keeps (D.within F) x) : Triple D F x (fun _ _ => True) :=
  fun s hi hF => let ⟨a, b⟩ := keepsAt_def.mp (h.on s) ⟨hi, hF⟩; ⟨a.1, b, fun _ _ => trivial⟩

-- from here on `intro` and `split` in a walk must not see through `KeepsAt` to the implication; `keepsAt_def` opens it
attribute [irreducible] KeepsAt

end Resolvo.MDet
