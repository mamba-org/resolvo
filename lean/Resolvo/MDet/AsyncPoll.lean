import Resolvo.MDet.Async
import Resolvo.MDet.Logic
import Resolvo.Basics
/-!
# One poll of a future of the asynchronous encoder model (C10, C11)

The polling functions of `MDet/Async.lean` are walked once. `Polled a s a' s'` collects what a poll may do to the
encoder-local state and to the solver state as far as the run-level invariants look at them: the local state is
framed (`Frame`), the dependency side of the solver state is untouched, and the at-most-once invariant for candidate
requests (`CInv`) is kept. `TaskPost` says what one poll of a future returns (`pollTask_post`; the result is the
provider's answer to the task, `answerOf`), `LoopInvariant` what a predicate has to survive for one iteration of the encoder
loop to keep it (`LoopInvariant.post`). The loop invariants of `AsyncInv`, `AsyncOnce` and `AsyncDeps` are instances; the walk
of `MDet/TaskWalk.lean` takes what it needs from `pollTask_post`.
-/
namespace Resolvo.MDet
open Resolvo

@[simp] theorem runM_logCall (w : String) (g : GEv) (s : S) : runM (logCall w g) s = (.ok (), { s with log := w :: s.log, glog := g :: s.glog }) := rfl

theorem runM_requestStarted (s : S) : ∃ s', runM requestStarted s = (.ok (), s') ∧ s'.fetchedCands = s.fetchedCands :=
  ⟨_, rfl, rfl⟩

/-- a child counts as started once it is done, its `get_or_cache_candidates` await has been entered, or it is
    parked on a filter / sort gate -/
def Child.started (c : Child) : Prop := c.done = true ∨ c.wait ≠ .notStarted ∨ c.stage ≠ 0

/-- a future counts as started once it has been polled: finished, or its request issued / listening (`deps`, `pkg`),
    or all its children started (`req`, `cons`) -/
def ATask.started (t : ATask) : Prop :=
  t.finished = true ∨ (match t.task with
    | .req _ _ => ∀ c ∈ t.children, c.started
    | .cons _ _ => ∀ c ∈ t.children, c.started
    | _ => t.wait ≠ .notStarted)

/-- what the polling functions may do to the encoder-local state -/
structure Frame (a a' : AS) : Prop where
  tasks : a'.tasks = a.tasks
  nextId : a'.nextId = a.nextId
  ready : ∀ x, x ∈ a.ready → x ∈ a'.ready

theorem Frame.refl (a : AS) : Frame a a := ⟨rfl, rfl, fun _ h => h⟩
theorem Frame.trans {a b c : AS} (h1 : Frame a b) (h2 : Frame b c) : Frame a c :=
  ⟨h2.tasks.trans h1.tasks, h2.nextId.trans h1.nextId, fun x hx => h2.ready x (h1.ready x hx)⟩

/-- waking a future changes the ready queue only, and only by adding to it -/
theorem enqueue_ready (a : AS) (tid : Nat) : ∃ r, enqueue a tid = { a with ready := r } ∧ ∀ x ∈ a.ready, x ∈ r := by
  unfold enqueue
  split
  · exact ⟨a.ready, rfl, fun _ h => h⟩
  · exact ⟨_, rfl, fun _ h => List.mem_append_left _ h⟩

theorem foldl_enqueue (l : List Nat) (a : AS) :
    ∃ r, l.foldl enqueue a = { a with ready := r } ∧ ∀ x ∈ a.ready, x ∈ r := by
  induction l generalizing a with
  | nil => exact ⟨a.ready, rfl, fun _ h => h⟩
  | cons x xs ih =>
    obtain ⟨r1, e1, m1⟩ := enqueue_ready a x
    obtain ⟨r2, e2, m2⟩ := ih (enqueue a x)
    rw [List.foldl_cons, e2, e1]
    exact ⟨r2, rfl, fun y hy => m2 y (by rw [e1]; exact m1 y hy)⟩

/-- what the at-most-once argument looks at: answered and requested candidates -/
def cacheView (s : S) : List Nat × List Nat := (s.fetchedCands, s.issuedCands)

/-- the packages whose candidates have been requested in this solve are pairwise distinct, and each of them is
    answered or still in flight -/
structure CInv (a : AS) (s : S) : Prop where
  nd : s.issuedCands.Nodup
  cov : ∀ n ∈ s.issuedCands, n ∈ s.fetchedCands ∨ (a.inflight.lookup n).isSome = true

/-- "quiet" steps: the in-flight table and the cache view are untouched -/
def Quiet (a : AS) (s : S) (a' : AS) (s' : S) : Prop := a'.inflight = a.inflight ∧ cacheView s' = cacheView s

theorem Quiet.trans {a b c : AS} {s t u : S} (h1 : Quiet a s b t) (h2 : Quiet b t c u) : Quiet a s c u :=
  ⟨h2.1.trans h1.1, h2.2.trans h1.2⟩

theorem CInv.of_same {a a' : AS} {s s' : S} (h : CInv a s) (hq : Quiet a s a' s') : CInv a' s' := by
  have h1 : s'.fetchedCands = s.fetchedCands := congrArg Prod.fst hq.2
  have h2 : s'.issuedCands = s.issuedCands := congrArg Prod.snd hq.2
  exact ⟨by rw [h2]; exact h.nd, fun n hn => by rw [h1, hq.1]; exact h.cov n (h2 ▸ hn)⟩

theorem CInv.issue {a a' : AS} {s s' : S} {n tid : Nat} (h : CInv a s) (hf : n ∉ s.fetchedCands)
    (hl : (a.inflight.lookup n).isSome ≠ true) (hi : a'.inflight = (n, tid) :: a.inflight)
    (h1 : s'.fetchedCands = s.fetchedCands) (h2 : s'.issuedCands = n :: s.issuedCands) : CInv a' s' := by
  refine ⟨h2 ▸ List.nodup_cons.mpr ⟨fun hm => (h.cov n hm).elim hf hl, h.nd⟩, fun m hm => ?_⟩
  rw [h1, hi]
  by_cases e : m = n
  · subst e; right; simp
  · have : (m == n) = false := by simpa using e
    simpa [List.lookup_cons, this] using h.cov m ((List.mem_cons.mp (h2 ▸ hm)).resolve_left e)

theorem CInv.answer {a a' : AS} {s s' : S} {n : Nat} (h : CInv a s)
    (hi : a'.inflight = a.inflight.filter (fun e => e.1 != n))
    (h1 : s'.fetchedCands = n :: s.fetchedCands) (h2 : s'.issuedCands = s.issuedCands) : CInv a' s' := by
  refine ⟨h2 ▸ h.nd, fun m hm => ?_⟩
  rw [h1, hi]
  by_cases e : m = n
  · exact Or.inl (e ▸ List.mem_cons_self)
  · rw [lookup_filter_ne _ e]
    exact (h.cov m (h2 ▸ hm)).imp (List.mem_cons_of_mem _) id

/-- what the dependency side (`AsyncDeps`) looks at: requested dependencies, processed solvables, the push queue -/
def depsView (s : S) : List Nat × List SoR × List Task := (s.issuedDeps, s.addedSolv, s.queue)

/-- what a poll of a future (other than the first poll of a `deps` future) and the executor's turn may do -/
structure Polled (a : AS) (s : S) (a' : AS) (s' : S) : Prop where
  frame : Frame a a'
  deps : depsView s' = depsView s
  cinv : CInv a s → CInv a' s'

theorem Polled.refl (a : AS) (s : S) : Polled a s a s := ⟨.refl a, rfl, id⟩
theorem Polled.trans {a b c : AS} {s t u : S} (h1 : Polled a s b t) (h2 : Polled b t c u) : Polled a s c u :=
  ⟨h1.frame.trans h2.frame, h2.deps.trans h1.deps, h2.cinv ∘ h1.cinv⟩
theorem Polled.quiet {a a' : AS} {s s' : S} (hf : Frame a a') (hi : a'.inflight = a.inflight)
    (hv : (cacheView s', depsView s') = (cacheView s, depsView s)) : Polled a s a' s' :=
  ⟨hf, congrArg Prod.snd hv, fun c => c.of_same ⟨hi, congrArg Prod.fst hv⟩⟩

/-- one poll of `get_or_cache_candidates`; the last two clauses are C10 at the level of one await -/
theorem pollCands_post {U : Universe} {tid n : Nat} {w : CandWait} {a : AS} {s : S} :
    PostAt (pollCands U tid n w a) s fun r s' => Polled a s r.2 s' ∧ r.1 ≠ .notStarted ∧
      (w = .notStarted → r.1 = .owner →
        s.fetchedCands.contains n = false ∧ a.inflight.lookup n = none ∧ r.2.inflight.lookup n = some tid) ∧
      (w = .notStarted → r.1 = .listener → (a.inflight.lookup n).isSome = true ∧ r.2.gates = a.gates) := by
  unfold pollCands
  refine .run rfl ?_
  cases w with
  | ready => exact .pure ⟨.refl _ _, nofun, nofun, nofun⟩
  | notStarted =>
    refine .ite (fun _ => .pure ⟨.refl _ _, nofun, nofun, nofun⟩) fun hf => .bind pollCancel_post fun _ s1 e => ?_
    subst e
    refine .ite (fun hi => .pure ⟨.quiet ⟨rfl, rfl, fun _ hx => hx⟩ rfl rfl, nofun, nofun, fun _ _ => ⟨hi, rfl⟩⟩)
      fun hi => .run rfl (.run rfl (.run rfl (.pure ?_)))
    exact ⟨⟨⟨rfl, rfl, fun _ hx => hx⟩, rfl, fun c => c.issue (by simpa using hf) hi rfl rfl rfl⟩, nofun,
      fun _ _ => ⟨by simpa using hf, Option.not_isSome_iff_eq_none.mp hi, by simp⟩, nofun⟩
  | owner =>
    refine .ite (fun _ => .run rfl (.pure ?_)) fun _ => .pure ⟨.refl _ _, nofun, nofun, nofun⟩
    obtain ⟨r, e, hr⟩ := foldl_enqueue ((a.listeners.filter (fun e => e.1 == n)).map (·.2))
      { a with opened := a.opened.erase s!"c{n}", inflight := a.inflight.filter (fun e => e.1 != n),
               listeners := a.listeners.filter (fun e => e.1 != n) }
    simp only [e]
    exact ⟨⟨⟨rfl, rfl, hr⟩, rfl, fun c => c.answer rfl rfl rfl⟩, nofun, nofun, nofun⟩
  | listener => exact .ite (fun _ => .pure ⟨.refl _ _, nofun, nofun, nofun⟩) fun _ => .pure ⟨.refl _ _, nofun, nofun, nofun⟩

/-- C10 at the level of one await (with `C10.request_guard`): an await that finds a request in flight never issues
    one: it becomes a listener and the set of outstanding requests is unchanged -/
theorem listener_issues_nothing (U : Universe) (tid n : Nat) (a : AS) (s s' : S) (a' : AS)
    (h : runM (pollCands U tid n .notStarted a) s = (.ok (.listener, a'), s')) :
    (a.inflight.lookup n).isSome = true ∧ a'.gates = a.gates :=
  (pollCands_post _ _ h).2.2.2 rfl rfl

theorem polled_pollGate (tid : Nat) (label : String) (e : Bool) (gid : Nat) (a : AS) (s : S) :
    Polled a s (pollGate tid label e gid a).2.2 s := by
  unfold pollGate
  split
  · exact .quiet ⟨rfl, rfl, fun _ hx => hx⟩ rfl rfl
  · split
    · exact .quiet ⟨rfl, rfl, fun _ hx => hx⟩ rfl rfl
    · exact .refl a s

/-- a conditional update of fields `Polled` does not look at (`finishChild`: a result enters a cache of filtered / sorted
    candidates unless it is there) -/
theorem polled_ite (a : AS) (s s2 : S) (p : Prop) [Decidable p]
    (h : (cacheView s2, depsView s2) = (cacheView s, depsView s)) : Polled a s a (if p then s else s2) :=
  .quiet (.refl a) rfl (by split <;> first | rfl | exact h)

/-- what every poll of a child guarantees -/
def ChildPost (c : Child) (a : AS) (s : S) (r : Child × AS) (s' : S) : Prop :=
  r.1.vs = c.vs ∧ r.1.started ∧ Polled a s r.2 s'

theorem ChildPost.after {x : M (Child × AS)} {c : Child} {a a1 : AS} {s s1 : S} (h0 : Polled a s a1 s1)
    (h : PostAt x s1 (ChildPost c a1 s1)) : PostAt x s1 (ChildPost c a s) :=
  fun r s' e => ⟨(h r s' e).1, (h r s' e).2.1, h0.trans (h r s' e).2.2⟩

theorem finishChild_post {sorted : Bool} {c : Child} {a : AS} {s : S} :
    PostAt (finishChild sorted c a) s (ChildPost c a s) := by
  unfold finishChild
  exact .ite (fun _ => .run rfl (.pure ⟨rfl, .inl rfl, polled_ite a s _ _ rfl⟩)) fun _ => .pure ⟨rfl, .inl rfl, .refl a s⟩

theorem sortStage_post {U : Universe} {tid : Nat} {g e : Bool} {c : Child} {a : AS} {s : S} :
    PostAt (sortStage U tid g c a e) s (ChildPost c a s) := by
  unfold sortStage
  refine .ite (fun _ => finishChild_post) fun _ => ?_
  have hg := polled_pollGate tid (sortLabel U c.vs) e c.gate a s
  exact .ite (fun _ => .after hg finishChild_post) fun _ => .pure ⟨rfl, .inr (.inr (by simp)), hg⟩

theorem filterStage_post {U : Universe} {tid : Nat} {g sorted e : Bool} {c : Child} {a : AS} {s : S} :
    PostAt (filterStage U tid g sorted c a e) s (ChildPost c a s) := by
  unfold filterStage
  refine .ite (fun _ => .ite (fun _ => sortStage_post) fun _ => finishChild_post) fun _ => ?_
  have hg := polled_pollGate tid (filterLabel sorted c.vs) e c.gate a s
  refine .ite (fun _ => ?_) fun _ => .pure ⟨rfl, .inr (.inr (by simp)), hg⟩
  exact .ite (fun _ => .run rfl (.after (hg.trans (polled_ite _ s _ _ rfl)) sortStage_post))
    fun _ => .run rfl (.after (hg.trans (polled_ite _ s _ _ rfl)) finishChild_post)

theorem pollChild_post {U : Universe} {tid : Nat} {sorted : Bool} {c : Child} {a : AS} {s : S} :
    PostAt (pollChild U tid sorted c a) s (ChildPost c a s) := by
  unfold pollChild
  refine .ite (fun hd => .pure ⟨rfl, .inl hd, .refl a s⟩) fun _ => .run rfl ?_
  refine .ite (fun _ => sortStage_post) fun _ => .ite (fun _ => filterStage_post) fun _ => ?_
  refine .ite (fun _ => .pure ⟨rfl, .inl rfl, .refl a s⟩) fun _ => .ite (fun _ => .pure ⟨rfl, .inl rfl, .refl a s⟩) fun _ => ?_
  refine .ite (fun _ => sortStage_post) fun _ => .bind pollCands_post fun (w, a1) s1 ⟨hpol, hw, _⟩ => ?_
  exact .ite (fun _ => .after hpol filterStage_post) fun _ => .pure ⟨rfl, .inr (.inl hw), hpol⟩

/-- `try_join_all_eager` (`cache.rs`): one poll of a requirement (or constraint) future polls **every** unfinished child, so the
    candidates of every version set of the requirement are known, requested or awaited before control returns
    to the executor — the requests of one requirement are never issued one after the other's answer -/
theorem pollChildren_post {U : Universe} {tid : Nat} {sorted : Bool} {cs : List Child} {a : AS} {s : S} :
    PostAt (pollChildren U tid sorted cs a) s fun r s' =>
      r.1.map (·.vs) = cs.map (·.vs) ∧ (∀ c ∈ r.1, c.started) ∧ Polled a s r.2 s' := by
  induction cs generalizing a s with
  | nil => exact .pure ⟨rfl, nofun, .refl a s⟩
  | cons c cs ih =>
    unfold pollChildren
    refine .bind pollChild_post fun (c1, a1) s1 ⟨v1, st1, p1⟩ => .bind ih fun (cs2, a2) s2 ⟨v2, st2, p2⟩ => .pure ?_
    exact ⟨(List.map_cons ..).trans (congr (congrArg List.cons v1) v2),
      fun x hx => (List.mem_cons.mp hx).elim (· ▸ st1) (st2 x), p1.trans p2⟩

/-- what a finished future hands to its callback: the provider's answer to its task (for a requirement, the sorted
    candidates of the version sets of its children `cs`) -/
def answerOf (U : Universe) (P : Problem) (cs : List Child) : Task → TaskResult
  | .deps none => .deps none (.known P.reqs P.constraints)
  | .deps (some sv) => .deps (some sv) (U.deps sv)
  | .pkg n => .cands n ((U.pkg? n).getD { cands := [] })
  | .req sid r => .req sid r (cs.map fun c => sortedCands U c.vs)
  | .cons sid vs => .cons sid vs (U.nonMatching vs)

/-- One poll of a future. The future keeps its identity and the version sets of its children and is started afterwards,
    the local state is framed and the at-most-once invariant for candidates kept; a result, if there is one, is the
    provider's answer to the task. As to dependency requests: either this is the first poll of the future of `deps sv`
    and exactly its request is recorded, or nothing is recorded and a future that is still not started was not
    started before. -/
structure TaskPost (U : Universe) (P : Problem) (t : ATask) (a : AS) (s : S) (t' : ATask) (a' : AS) (res : Option TaskResult)
    (s' : S) : Prop where
  id : t'.id = t.id
  task : t'.task = t.task
  vs : t'.children.map (·.vs) = t.children.map (·.vs)
  started : t'.started
  frame : Frame a a'
  cinv : CInv a s → CInv a' s'
  deps : (∃ sv, t.task = .deps (some sv) ∧ t.wait = .notStarted ∧ t'.wait ≠ .notStarted ∧
            depsView s' = (sv :: s.issuedDeps, s.addedSolv, s.queue)) ∨
         (depsView s' = depsView s ∧ (t'.wait = .notStarted → t.wait = .notStarted))
  res : ∀ r, res = some r → r = answerOf U P t'.children t.task

theorem TaskPost.quiet {U : Universe} {P : Problem} {t t' : ATask} {a a' : AS} {s s' : S} {res : Option TaskResult}
    (h1 : t'.id = t.id) (h2 : t'.task = t.task) (hv : t'.children.map (·.vs) = t.children.map (·.vs)) (h3 : t'.started)
    (hp : Polled a s a' s') (hw : t'.wait = .notStarted → t.wait = .notStarted)
    (hr : ∀ r, res = some r → r = answerOf U P t'.children t.task) : TaskPost U P t a s t' a' res s' :=
  ⟨h1, h2, hv, h3, hp.frame, hp.cinv, .inr ⟨hp.deps, hw⟩, hr⟩

theorem startDeps_post {sv : Nat} {s : S} : PostAt (startDeps sv) s fun _ s' =>
    (cacheView s', depsView s') = (cacheView s, sv :: s.issuedDeps, s.addedSolv, s.queue) := by
  unfold startDeps
  refine .bind pollCancel_post fun _ _ e => ?_
  subst e
  exact .run rfl (.run rfl (.eval rfl rfl))

theorem pollTask_post {U : Universe} {P : Problem} {t : ATask} {a : AS} {s : S} :
    PostAt (pollTask U P t a) s fun r s' => TaskPost U P t a s r.1 r.2.1 r.2.2 s' := by
  -- a result is handed over by the branches that finish the future: it is the answer to `t.task`, whose shape `ht` gives
  have ans : ∀ {k : Task} {x r : TaskResult} {cs : List Child}, t.task = k → x = answerOf U P cs k → some x = some r →
      r = answerOf U P cs t.task := fun ht hx e => Option.some.inj e ▸ ht ▸ hx
  unfold pollTask
  split
  · next ht => exact .pure (.quiet rfl rfl rfl (.inl rfl) (.refl a s) id fun _ => ans ht rfl)
  · next sv ht =>
    refine .run rfl ?_
    split
    · next hw =>
      refine .ite (fun _ => .pure (.quiet rfl rfl rfl (.inl rfl) (.refl a s) id fun _ => ans ht rfl)) fun _ =>
        .bind startDeps_post fun _ _ hv => ?_
      exact .pure ⟨rfl, rfl, rfl, .inr (by rw [ht]; nofun), ⟨rfl, rfl, fun _ hx => hx⟩, fun c => c.of_same ⟨rfl, congrArg Prod.fst hv⟩,
        .inl ⟨sv, ht, hw, nofun, congrArg Prod.snd hv⟩, fun _ e => nomatch e⟩
    · next hw =>
      refine .ite (fun _ => .run rfl (.pure ?_)) fun _ =>
        .pure (.quiet rfl rfl rfl (.inr (by rw [ht]; exact hw)) (.refl a s) id fun _ e => nomatch e)
      exact .quiet rfl rfl rfl (.inl rfl) (.quiet ⟨rfl, rfl, fun _ hx => hx⟩ rfl rfl) nofun fun _ => ans ht rfl
  · next n ht =>
    refine .bind pollCands_post fun (w, a1) s1 ⟨hpol, hw, _⟩ => ?_
    exact .ite (fun _ => .pure (.quiet rfl rfl rfl (.inl rfl) hpol (absurd · hw) fun _ => ans ht rfl)) fun _ =>
      .pure (.quiet rfl rfl rfl (.inr (by rw [ht]; exact hw)) hpol (absurd · hw) fun _ e => nomatch e)
  -- a requirement future and a constraint future poll their children alike
  all_goals next ht =>
    refine .bind pollChildren_post fun (cs, a1) s1 ⟨v, st, hpol⟩ => ?_
    exact .ite (fun _ => .pure (.quiet rfl rfl v (.inl rfl) hpol id fun _ => ans ht rfl)) fun _ =>
      .pure (.quiet rfl rfl v (.inr (by rw [ht]; exact st)) hpol id fun _ e => nomatch e)

/-- the executor's turn (it touches the schedule and the event log, opens one gate and wakes its future) is a `Polled` step -/
theorem executorTurn_post {a : AS} {s : S} : PostAt (executorTurn a) s fun a' s' => Polled a s a' s' := by
  have wake : ∀ (a1 : AS) (tid : Nat) (s1 : S), Frame a a1 → a1.inflight = a.inflight →
      (cacheView s1, depsView s1) = (cacheView s, depsView s) → Polled a s (enqueue a1 tid) s1 := by
    intro a1 tid s1 hf hi hv
    obtain ⟨r, e, hr⟩ := enqueue_ready a1 tid
    rw [e]
    exact .quiet (hf.trans ⟨rfl, rfl, hr⟩) hi hv
  unfold executorTurn
  refine .run rfl (.run rfl ?_)
  split
  · exact .throw
  · split
    split
    · exact .run rfl (.pure (wake _ _ _ ⟨rfl, rfl, fun _ hx => hx⟩ rfl rfl))
    · split
      · exact .run rfl (.pure (wake _ _ _ ⟨rfl, rfl, fun _ hx => hx⟩ rfl rfl))
      · exact .throw

theorem mem_foldl_adoptOne {U : Universe} {q : List Task} {a : AS} {x : ATask} (h : x ∈ (q.foldl (adoptOne U) a).tasks) :
    x ∈ a.tasks ∨ ∃ t ∈ q, x.task = t ∧ (∀ sid r, t = .req sid r → x.children.map (·.vs) = U.reqVersionSets r) ∧
      ∀ sid vs, t = .cons sid vs → x.children.map (·.vs) = [vs] := by
  induction q generalizing a with
  | nil => exact .inl h
  | cons t q ih =>
    rcases ih h with h | ⟨t', ht', h'⟩
    · rcases List.mem_append.mp (show x ∈ a.tasks ++ [_] from h) with h | h
      · exact .inl h
      · cases List.mem_singleton.mp h
        exact .inr ⟨t, List.mem_cons_self, rfl, fun _ _ e => by subst e; simp [List.map_map, Function.comp_def],
          fun _ _ e => by subst e; rfl⟩
    · exact .inr ⟨t', List.mem_cons_of_mem _ ht', h'⟩

theorem find?_id {l : List ATask} {tid : Nat} {t : ATask} (h : l.find? (fun t => t.id == tid) = some t) : t ∈ l ∧ t.id = tid :=
  ⟨List.mem_of_find?_eq_some h, by simpa using List.find?_some h⟩

/-- An invariant of the encoder loop is a predicate on the local and the solver state that survives what one iteration does:
    the pushed tasks are adopted one by one; then nothing is ready and the executor takes its turn (`turn`), or the first ready
    id is popped and names no unfinished future (`skip`), or it names one, which is polled and written back (`poll`) and, if
    it completed, has its callback run (`callback`: stated for any result and for the final state whatever the outcome, the
    form in which `QR` and `Preserves` are proved). The model empties the push queue at once; the states with a shorter queue
    in `adopt` are those of the induction over it. `MDet/TaskWalk.lean` walks `asyncStep` a second time, for a discipline:
    there the effect on every exit matters, cancelled ones included, which a postcondition of normal runs does not see. -/
structure LoopInvariant (U : Universe) (P : Problem) (I : AS → S → Prop) : Prop where
  adopt : ∀ {a s t q}, s.queue = t :: q → I a s → I (adoptOne U a t) { s with queue := q }
  turn : ∀ {a s a' s'}, Polled a s a' s' → I a s → I a' s'
  skip : ∀ {a s tid rest}, a.ready = tid :: rest →
    (∀ t, a.tasks.find? (fun t => t.id == tid) = some t → t.finished = true) → I a s → I { a with ready := rest } s
  poll : ∀ {a s rest t t' a3 res s3}, a.ready = t.id :: rest → t ∈ a.tasks → TaskPost U P t { a with ready := rest } s t' a3 res s3 →
    I a s → I { a3 with tasks := a3.tasks.map fun x => if x.id == t.id then t' else x } s3
  callback : ∀ {a s} r, I a s → I a (runM (runCallback U P r) s).2

theorem LoopInvariant.adoptAll {U : Universe} {P : Problem} {I : AS → S → Prop} (hI : LoopInvariant U P I) {q : List Task} {a : AS}
    {s : S} (hi : I a s) (e : s.queue = q) : I (q.foldl (adoptOne U) a) { s with queue := [] } := by
  induction q generalizing a s with
  | nil => exact (show { s with queue := [] } = s from e ▸ rfl) ▸ hi
  | cons t q ih => exact ih (s := { s with queue := q }) (hI.adopt e hi) rfl

theorem LoopInvariant.post {U : Universe} {P : Problem} {I : AS → S → Prop} (hI : LoopInvariant U P I) {a : AS} {s : S}
    (hi : I a s) : PostAt (asyncStep U P a) s fun r s' => match r with
      | some a' => I a' s'
      | none => True := by
  have hi1 := hI.adoptAll hi rfl
  unfold asyncStep
  refine .run (a := s.queue.foldl (adoptOne U) a) (s1 := { s with queue := [] }) rfl ?_
  split
  · next tid rest hrd =>
    dsimp only
    split
    · next hfd => exact .pure (hI.skip hrd (fun t e => nomatch hfd.symm.trans e) hi1)
    · next t hfd =>
      refine .ite (fun hfin => .pure (hI.skip hrd (fun t e => Option.some.inj (hfd.symm.trans e) ▸ hfin) hi1))
        fun _ => .bind pollTask_post fun (t', a3, res) s3 post => ?_
      obtain ⟨htm, rfl⟩ := find?_id hfd
      have hi3 := hI.poll hrd htm post hi1
      dsimp only
      split
      · next r =>
        refine .bind (Q1 := fun _ s4 => s4 = (runM (runCallback U P r) s3).2) (fun _ _ e => (congrArg Prod.snd e).symm) fun _ _ hcb => ?_
        exact .pure (hcb ▸ hI.callback r hi3)
      · exact .pure hi3
  · next hrd =>
    exact .ite (fun _ => .pure trivial) fun _ => .bind executorTurn_post fun _ _ hp => .pure (hI.turn hp hi1)

end Resolvo.MDet
