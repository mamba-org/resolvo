import Resolvo.MDet.Walk
import Resolvo.MDet.AsyncPoll
/-!
# Frame facts: the encoder's callbacks never touch the provider cache

`Preserves f x`: whatever `x` does and however it ends, `f` of the solver state is unchanged. For the view `cacheView`
(answered and requested candidates) this holds of every function on the callback path of the encoder
(`on_dependencies_available`, `on_candidates_available`, `on_requirement_candidates_available`,
`on_constraint_candidates_available` and what they call): none of them calls the provider cache, and `MDet/Walk.lean`
does the rest. Provider requests are therefore issued by the polling functions of `MDet/Async.lean` only.
-/
namespace Resolvo.MDet
open Resolvo Resolvo.Sat Resolvo.Abs

/-- `x` never changes `f` of the solver state, whatever its outcome -/
def Preserves {α β : Type} (f : S → β) (x : M α) : Prop := ∀ s, f (runM x s).2 = f s

def viewD {β : Type} (f : S → β) : Discipline := .ofRel (fun s s' => f s' = f s) (fun _ => rfl) (fun h1 h2 => h2.trans h1)

theorem preserves_iff {α β : Type} {f : S → β} {x : M α} : Preserves f x ↔ Keeps (viewD f) x :=
  ⟨fun h => ⟨fun s => keepsAt_def.mpr fun _ => ⟨trivial, h s⟩⟩, fun h s => (keepsAt_def.mp (h.on s) trivial).2⟩

theorem viewD_step {β : Type} {f : S → β} {s s' : S} (h : f s' = f s) : (viewD f).Step s s' := fun _ => ⟨trivial, h⟩

theorem cacheView_scratch : (viewD cacheView).IgnoresScratch := fun h =>
  viewD_step (congrArg (fun o : Obs => (o.fetchedCands, o.issuedCands)) h)

/-- the callbacks of the encoder never issue a provider request and never touch what has been answered -/
theorem pres_runCallback (U : Universe) (P : Problem) (r : TaskResult) : Preserves cacheView (runCallback U P r) :=
  preserves_iff.mpr (keeps_runCallback (callbackPrims_of_ignores cacheView_scratch (hv := fun _ _ _ _ => viewD_step rfl)
    (hc := fun _ _ => viewD_step rfl) (hq := fun _ _ _ => viewD_step rfl) (ht := fun _ _ => viewD_step rfl)
    (hr := fun _ _ => viewD_step rfl)) U P r)

end Resolvo.MDet
