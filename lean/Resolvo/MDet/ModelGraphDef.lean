import Resolvo.MDet.Solve
import Resolvo.Render
/-!
# The conflict graph of a state of the exact model, and the decidable provider contract

What the driver evaluates; `MDet/ModelGraph.lean` proves that every edge of `modelGraph` states a true fact.
-/
namespace Resolvo.MDet
open Resolvo Resolvo.Sat Resolvo.Abs

/-- decidable form of the provider contract `WFU` (part of the driver's well-formedness check of generated universes) -/
def wfuB (U : Universe) : Bool :=
  U.pkgs.all (fun np => np.2.cands.all (fun c => U.nameOf c == np.1)) &&
  U.pkgs.all (fun np => (match np.2.locked with | some f => np.2.cands.contains f | none => true) &&
                        np.2.excluded.all (fun e => np.2.cands.contains e.1))

/-- the kinds of the clauses with the given ids (ids outside the arena contribute nothing) -/
def kindsOf (s : S) (ids : List Nat) : List Kind := ids.filterMap (fun id => (s.clauses[id]?).map (·.kind))

/-- `Conflict::graph` on a state of the exact model -/
def modelGraph (U : Universe) (s : S) (ids : List Nat) : Render.RG := Render.buildGraph U s.origins (kindsOf s ids)

end Resolvo.MDet
