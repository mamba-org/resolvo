import Resolvo.MDet.Truth
import Resolvo.MDet.TaskWalk
/-!
# Candidates are requested causally (C09, second sentence; every run of the model, synchronous and asynchronous)

`Mentioned U P s n`: the package name `n` is mentioned by dependency information the solver has already **obtained** in
state `s` — a requirement (any member of a union) or a constrains entry of the root, or of a solvable whose dependencies
are in the cache (`fetchedDeps`). Invariant `KInv`: every `get_candidates` request of this solve (`issuedCands`, the ghost
twin of the `c<n>` entries of the call log) was for a mentioned name, and every queued task is causal (`KTask`: a package
task for a mentioned name; a requirement / constraint task for a solvable whose dependencies have been obtained and that
really has that requirement / constraint). It is a discipline (`causalD`: the dependency cache only grows, so contexts are
facts that survive that); the functions that request candidates or write the work list keep it, given what the provider
answered; `MDet/TaskWalk.lean` carries it through the loops of the encoder (the tasks that may be run are the causal
ones) and `MDet/Walk.lean` through the rest of the model: `solveRun_kinv`.
-/
namespace Resolvo.MDet.Causal
open Resolvo Resolvo.Sat Resolvo.Abs Resolvo.MDet

/-- the dependencies of a solvable-or-root have been obtained from the provider -/
def Obtained (s : S) : SoR → Prop
  | none => True
  | some sv => sv ∈ s.fetchedDeps

/-- the dependencies of `sid` mention the package name `n` -/
def MentionedBy (U : Universe) (P : Problem) (sid : SoR) (n : Nat) : Prop :=
  ∃ reqs cons, sidDeps U P sid = some (reqs, cons) ∧
    ((∃ r ∈ reqs, ∃ vs ∈ U.reqVersionSets r, U.vsName vs = n) ∨ ∃ vs ∈ cons, U.vsName vs = n)

def Mentioned (U : Universe) (P : Problem) (s : S) (n : Nat) : Prop := ∃ sid, Obtained s sid ∧ MentionedBy U P sid n

/-- a queued task is causal -/
def KTask (U : Universe) (P : Problem) (s : S) : Task → Prop
  | .deps _ => True
  | .pkg n => Mentioned U P s n
  | .req sid r => Obtained s sid ∧ TaskLegit U P (.req sid r)
  | .cons sid vs => Obtained s sid ∧ TaskLegit U P (.cons sid vs)

structure KInv (U : Universe) (P : Problem) (s : S) : Prop where
  cands : ∀ n ∈ s.issuedCands, Mentioned U P s n
  queue : ∀ t ∈ s.queue, KTask U P s t

/-- the dependency cache only grows -/
def Mono (s s' : S) : Prop := ∀ x ∈ s.fetchedDeps, x ∈ s'.fetchedDeps

theorem Mono.refl (s : S) : Mono s s := fun _ h => h
theorem Mono.trans {a b c : S} (h1 : Mono a b) (h2 : Mono b c) : Mono a c := fun x h => h2 x (h1 x h)

variable {U : Universe} {P : Problem}

theorem obtained_mono {s s' : S} (h : Mono s s') (sid : SoR) (ho : Obtained s sid) : Obtained s' sid := by
  cases sid with
  | none => trivial
  | some sv => exact h sv ho

theorem mentioned_mono {s s' : S} (h : Mono s s') (n : Nat) (hm : Mentioned U P s n) : Mentioned U P s' n := by
  obtain ⟨sid, h1, h2⟩ := hm
  exact ⟨sid, obtained_mono h sid h1, h2⟩

theorem ktask_mono {s s' : S} (h : Mono s s') (t : Task) (hk : KTask U P s t) : KTask U P s' t := by
  cases t with
  | deps sid => trivial
  | pkg n => exact mentioned_mono h n hk
  | req sid r => exact ⟨obtained_mono h sid hk.1, hk.2⟩
  | cons sid vs => exact ⟨obtained_mono h sid hk.1, hk.2⟩

theorem kinv_of_mono {s s' : S} (hm : Mono s s') (hc : ∀ n ∈ s'.issuedCands, Mentioned U P s n)
    (hq : ∀ t ∈ s'.queue, KTask U P s t) : KInv U P s' ∧ Mono s s' :=
  ⟨⟨fun n hn => mentioned_mono hm n (hc n hn), fun t ht => ktask_mono hm t (hq t ht)⟩, hm⟩

theorem kinv_of_view {s s' : S} (h : KInv U P s) (h1 : s'.issuedCands = s.issuedCands) (h2 : s'.queue = s.queue)
    (h3 : s'.fetchedDeps = s.fetchedDeps) : KInv U P s' ∧ Mono s s' :=
  kinv_of_mono (fun _ hx => h3 ▸ hx) (h1 ▸ h.cands) (h2 ▸ h.queue)

def causalD (U : Universe) (P : Problem) : Discipline := ⟨KInv U P, fun s _ s' => Mono s s', Mono.refl, Mono.trans⟩

def KMAt (U : Universe) (P : Problem) {α : Type} (x : M α) (s : S) : Prop :=
  KInv U P s → KInv U P (runM x s).2 ∧ Mono s (runM x s).2
def KM (U : Universe) (P : Problem) {α : Type} (x : M α) : Prop := ∀ s, KMAt U P x s

theorem km_iff {α : Type} {x : M α} : KM U P x ↔ Keeps (causalD U P) x :=
  ⟨fun h => ⟨fun s => keepsAt_def.mpr (h s)⟩, fun h s => keepsAt_def.mp (h.on s)⟩

theorem KM.mk {α : Type} {x : M α} (h : ∀ s, KMAt U P x s) : KM U P x := h

theorem km_forIn_mem {γ δ : Type} (xs : List γ) (init : δ) (body : γ → δ → M (ForInStep δ))
    (h : ∀ x b, x ∈ xs → KM U P (body x b)) : KM U P (forIn xs init body) :=
  km_iff.mpr (keeps_forIn xs init fun x b hx => km_iff.mp (h x b hx))

theorem km_panic_bind {α β : Type} (site : String) (k : α → M β) : KM U P ((panic site : M α) >>= k) :=
  km_iff.mpr (keeps_panic_bind site k)

theorem kmAt_of_imp {α : Type} {x : M α} {s : S} (h : KInv U P s → KMAt U P x s) : KMAt U P x s := fun hi => h hi hi

theorem causalD_scratch : (causalD U P).IgnoresScratch := fun h hi =>
  kinv_of_view hi (congrArg Obs.issuedCands h) (congrArg Obs.queue h) (congrArg Obs.fetchedDeps h)

/-- a state predicate that survives any growth of the dependency cache -/
def KStable (F : S → Prop) : Prop := ∀ s s', Mono s s' → F s → F s'

theorem kstable_const (p : Prop) : KStable (fun _ => p) := fun _ _ _ h => h
theorem kstable_and {F G : S → Prop} (hF : KStable F) (hG : KStable G) : KStable (fun s => F s ∧ G s) :=
  fun s s' e h => ⟨hF s s' e h.1, hG s s' e h.2⟩

def Kr (U : Universe) (P : Problem) {α : Type} (F : S → Prop) (x : M α) (G : α → S → Prop) : Prop :=
  ∀ s, KInv U P s → F s → KInv U P (runM x s).2 ∧ Mono s (runM x s).2 ∧ ∀ a, (runM x s).1 = .ok a → G a (runM x s).2

/-! `Kr U P` is `Triple (causalD U P)` and `KStable` is its notion of stability, by definition: the rules of
`MDet/Logic.lean`. Where no postcondition matters the context joins the invariant (`kr_of_within`), and the rules and
walks for a plain discipline do. -/

theorem kr_of_tm {α : Type} {x : M α} (F : S → Prop) (h : Keeps (causalD U P) x) : Kr U P F x (fun _ _ => True) :=
  triple_of_keeps (D := causalD U P) F h
theorem kr_weaken {α : Type} {F F' : S → Prop} {x : M α} {G G' : α → S → Prop}
    (h : Kr U P F x G) (hpre : ∀ s, F' s → F s) (hpost : ∀ a s, G a s → G' a s) : Kr U P F' x G' :=
  triple_weaken (D := causalD U P) h hpre hpost
theorem kr_at {α : Type} {F : S → Prop} {x : M α} {G : α → S → Prop} (h : Kr U P F x G) {s0 s1 : S} (hi : KInv U P s1) (hF : F s1)
    (he : Mono s0 s1) : KInv U P (runM x s1).2 ∧ Mono s0 (runM x s1).2 ∧ ∀ a, (runM x s1).1 = .ok a → G a (runM x s1).2 :=
  triple_at (D := causalD U P) h hi hF he
theorem kmAt_of_tr {α : Type} {F : S → Prop} {x : M α} {G : α → S → Prop} {s : S} (h : Kr U P F x G) (hF : KInv U P s → F s) :
    KMAt U P x s := fun hi => ⟨(h s hi (hF hi)).1, (h s hi (hF hi)).2.1⟩
theorem kr_assume {α : Type} {F : S → Prop} {x : M α} {G : α → S → Prop} {p : Prop} (hp : ∀ s, F s → p) (h : p → Kr U P F x G) :
    Kr U P F x G := triple_assume (D := causalD U P) hp h
theorem kr_get_bind_at {β : Type} {F : S → Prop} {k : S → M β} {H : β → S → Prop}
    (hk : ∀ s0, Kr U P (fun s => F s ∧ s = s0) (k s0) H) : Kr U P F (get >>= k) H := triple_get_bind_at (D := causalD U P) hk
theorem kr_pure_ctx {α : Type} {F : S → Prop} (a : α) {G : α → S → Prop} (h : ∀ s, F s → G a s) : Kr U P F (pure a : M α) G :=
  triple_pure_ctx (D := causalD U P) a h
theorem kr_bind {α β : Type} {F : S → Prop} {x : M α} {G : α → S → Prop} {k : α → M β} {H : β → S → Prop}
    (hF : KStable F) (hx : Kr U P F x G) (hk : ∀ a, Kr U P (fun s => F s ∧ G a s) (k a) H) : Kr U P F (x >>= k) H :=
  triple_bind (D := causalD U P) hF hx hk
theorem kr_bind_keeps {α β : Type} {F : S → Prop} {x : M α} {G : α → S → Prop} {k : α → M β} (hx : Kr U P F x G)
    (hk : ∀ a, Keeps (causalD U P) (k a)) : Kr U P F (x >>= k) (fun _ _ => True) := triple_bind_keeps (D := causalD U P) hx hk
theorem kr_forIn_inv {γ δ : Type} {F : S → Prop} (hF : KStable F) (I : List γ → δ → S → Prop)
    (body : γ → δ → M (ForInStep δ)) (xs : List γ) (pre : List γ) (init : δ)
    (h : ∀ pre' x b, x ∈ xs → Kr U P (fun s => F s ∧ I pre' b s) (body x b) (fun r s => ∃ b', r = .yield b' ∧ I (pre' ++ [x]) b' s)) :
    Kr U P (fun s => F s ∧ I pre init s) (forIn xs init body) (fun b s => I (pre ++ xs) b s) :=
  triple_forIn_inv (D := causalD U P) hF I body xs pre init h

theorem kr_ite {α : Type} {F : S → Prop} {c : Prop} [Decidable c] {x y : M α} {G : α → S → Prop}
    (hx : c → Kr U P F x G) (hy : ¬c → Kr U P F y G) : Kr U P F (if c then x else y) G := triple_ite (D := causalD U P) hx hy

/-- `causalD` does not look at how a run ended: a stable context survives every run -/
theorem KStable.eff {F : S → Prop} (hF : KStable F) : ∀ s c s', (causalD U P).Eff s c s' → F s → F s' := fun s _ s' => hF s s'

theorem kr_of_within {α : Type} {F : S → Prop} {x : M α} (h : Keeps ((causalD U P).within F) x) : Kr U P F x (fun _ _ => True) :=
  triple_of_within h

theorem kr_of_tm_post {α : Type} {x : M α} (F : S → Prop) {Q : α → S → Prop} (h : Keeps (causalD U P) x) (hq : ∀ s, PostAt x s Q) :
    Kr U P F x Q := triple_of_keeps_post (D := causalD U P) F h hq

theorem kstable_obtained (sid : SoR) : KStable (fun s => Obtained s sid) := fun _ _ e h => obtained_mono e sid h
theorem kstable_mentioned (n : Nat) : KStable (fun s => Mentioned U P s n) := fun _ _ e h => mentioned_mono e n h
theorem kstable_ktask (t : Task) : KStable (fun s => KTask U P s t) := fun _ _ e h => ktask_mono e t h

theorem causalD_clauses : ClausePrims (causalD U P) where
  scratch := causalD_scratch
  internSolvable := keeps_internSolvable causalD_scratch fun _ _ _ _ h => kinv_of_view h rfl rfl rfl
  allocForbidVar := keeps_allocForbidVar causalD_scratch fun _ _ _ _ h => kinv_of_view h rfl rfl rfl
  allocClause := keeps_allocClause causalD_scratch fun _ _ h => kinv_of_view h rfl rfl rfl
  trackers _ _ h := kinv_of_view h rfl rfl rfl
  reqCands _ _ h := kinv_of_view h rfl rfl rfl

theorem causalD_decisions : (causalD U P).IgnoresDecisions := fun _ _ _ _ h => kinv_of_view h rfl rfl rfl

theorem km_pollCancel : Keeps (causalD U P) pollCancel :=
  ⟨fun s => keepsAt_of_step id (by rw [runM_pollCancel]; split <;> exact fun h => kinv_of_view h rfl rfl rfl)⟩

/-- the tasks `KInv` allows on the work list are the causal ones -/
theorem causalD_tasks : Tasks (causalD U P) (KTask U P) where
  scratch := causalD_scratch
  stable := kstable_ktask
  queued hi := hi.queue
  setQueue _ _ _ hq hi := kinv_of_mono (fun _ hx => hx) hi.cands (hq hi)
  deps _ _ := trivial

theorem km_modify (g : S → S)
    (h : ∀ s, (∀ x ∈ s.fetchedDeps, x ∈ (g s).fetchedDeps) ∧ (g s).issuedCands = s.issuedCands ∧ (g s).queue = s.queue) :
    Keeps (causalD U P) (modify g) := keeps_modify fun s hi => kinv_of_mono (h s).1 ((h s).2.1 ▸ hi.cands) ((h s).2.2 ▸ hi.queue)

/-- a request for the candidates of a package the context knows to be mentioned is recorded -/
theorem within_issue {F : S → Prop} (hF : KStable F) {n : Nat} (hn : ∀ s, F s → Mentioned U P s n) (g : S → S)
    (h : ∀ s, (g s).issuedCands = n :: s.issuedCands ∧ (g s).queue = s.queue ∧ (g s).fetchedDeps = s.fetchedDeps) :
    Keeps ((causalD U P).within F) (modify g) := by
  refine keeps_modify fun s => Discipline.step_within hF.eff fun hi hf =>
    kinv_of_mono (fun x hx => (h s).2.2 ▸ hx) ?_ ((h s).2.1 ▸ hi.queue)
  rw [(h s).1]
  exact fun x hx => (List.mem_cons.mp hx).elim (· ▸ hn s hf) (hi.cands x)

theorem km_logCall (w : String) (g : GEv) : Keeps (causalD U P) (logCall w g) := km_modify _ fun _ => ⟨fun _ h => h, rfl, rfl⟩
theorem km_finishCands (U' : Universe) (n : Nat) : Keeps (causalD U P) (finishCands U' n) :=
  km_modify _ fun _ => ⟨fun _ h => h, rfl, rfl⟩

section requests
variable {F : S → Prop} (hF : KStable F)
include hF

/-- `get_candidates` for a name the context knows to be mentioned: everything but the request record is quiet -/
theorem within_getCandidates (U : Universe) (n : Nat) (hn : ∀ s, F s → Mentioned U P s n) :
    Keeps ((causalD U P).within F) (getCandidates U n) := by
  unfold getCandidates
  walk ignoresScratch_within hF.eff causalD_scratch using km_pollCancel.within hF.eff,
    (keeps_requestStarted causalD_scratch).within hF.eff,
    within_issue hF hn _ fun _ => ⟨rfl, rfl, rfl⟩

/-- one poll of a `get_or_cache_candidates` await for a mentioned name -/
theorem within_pollCands (U : Universe) (tid n : Nat) (w : CandWait) (a : AS) (hn : ∀ s, F s → Mentioned U P s n) :
    Keeps ((causalD U P).within F) (pollCands U tid n w a) := by
  unfold pollCands
  walk ignoresScratch_within hF.eff causalD_scratch using km_pollCancel.within hF.eff, (km_logCall _ _).within hF.eff,
    (km_finishCands _ _).within hF.eff, (keeps_requestStarted causalD_scratch).within hF.eff,
    within_issue hF hn _ fun _ => ⟨rfl, rfl, rfl⟩

end requests

theorem kr_getCandidates (F : S → Prop) (hF : KStable F) (U : Universe) (n : Nat) (hn : ∀ s, F s → Mentioned U P s n) :
    Kr U P F (getCandidates U n) (fun _ _ => True) := kr_of_within (within_getCandidates hF U n hn)

theorem km_getDeps (U : Universe) (sv : Nat) : Keeps (causalD U P) (getDeps U sv) := by
  unfold getDeps
  walk using km_pollCancel, keeps_requestStarted causalD_scratch,
    km_modify _ fun _ => ⟨fun _ hx => List.mem_cons_of_mem _ hx, rfl, rfl⟩

theorem kr_getDeps (F : S → Prop) (U : Universe) (sv : Nat) :
    Kr U P F (getDeps U sv) (fun d s => d = U.deps sv ∧ sv ∈ s.fetchedDeps) :=
  kr_of_tm_post F (km_getDeps U sv) fun _ => getDeps_post

/-- `on_dependencies_available` with the provider's answer, for a solvable whose dependencies have been obtained: every
    package named is mentioned by `sid`, every task pushed is about `sid` -/
theorem kr_onDependencies (F : S → Prop) (hF : KStable F) (U : Universe) (P : Problem) (sid : SoR) (d : Deps)
    (hO : ∀ s, F s → Obtained s sid) (hd : d = depsAnswer U P sid) : Kr U P F (onDependencies U P sid d) (fun _ _ => True) := by
  refine causalD_tasks.triple_onDependencies hF.eff U P sid d
    (fun _ _ => triple_of_keeps _ (keeps_addExclusionClause causalD_clauses _ _)) fun reqs cons e s hFs => ?_
  have hs := sidDeps_of_answer (e ▸ hd)
  refine ⟨fun vs hvs => ⟨sid, hO s hFs, reqs, cons, hs, (List.mem_append.mp hvs).imp (fun h1 => ?_) fun h1 => ⟨vs, h1, rfl⟩⟩,
    fun r hr => ⟨hO s hFs, reqs, cons, hs, hr⟩, fun c hc => ⟨hO s hFs, reqs, cons, hs, hc⟩⟩
  obtain ⟨r, hr, hv⟩ := List.mem_flatMap.mp h1
  exact ⟨r, hr, vs, hv, rfl⟩

/-- the version sets a future's children stand for -/
def taskVsets (U : Universe) : Task → List Nat
  | .req _ r => U.reqVersionSets r
  | .cons _ vs => [vs]
  | _ => []

/-- the version sets of a causal task belong to mentioned packages -/
theorem mentioned_of_vsets {s : S} {t : Task} (h : KTask U P s t) {vs : Nat} (hvs : vs ∈ taskVsets U t) :
    Mentioned U P s (U.vsName vs) := by
  cases t with
  | deps _ => cases hvs
  | pkg _ => cases hvs
  | req sid r =>
    obtain ⟨ho, reqs, cons, h1, h2⟩ := h
    exact ⟨sid, ho, reqs, cons, h1, .inl ⟨r, h2, vs, hvs, rfl⟩⟩
  | cons sid vs' =>
    obtain ⟨ho, reqs, cons, h1, h2⟩ := h
    cases List.mem_singleton.mp hvs
    exact ⟨sid, ho, reqs, cons, h1, .inr ⟨vs, h2, rfl⟩⟩

theorem kr_runTask (F : S → Prop) (hF : KStable F) (U : Universe) (P : Problem) (t : Task) (ht : ∀ s, F s → KTask U P s t) :
    Kr U P F (runTask U P t) (fun _ _ => True) := by
  have sc : ((causalD U P).within F).IgnoresScratch := ignoresScratch_within hF.eff causalD_scratch
  cases t with
  | deps sid =>
    cases sid with
    | none => exact kr_onDependencies F hF U P none _ (fun _ _ => trivial) rfl
    | some sv =>
      exact kr_bind hF (kr_getDeps F U sv) fun d => kr_assume (fun _ h => h.2.1) fun hd =>
        kr_onDependencies _ (kstable_and hF (kstable_and (kstable_const _) (kstable_obtained (some sv)))) U P (some sv) d (fun _ h => h.2.2) hd
  | pkg n => exact kr_bind_keeps (kr_getCandidates F hF U n ht) fun _ => keeps_onCandidates causalD_clauses _ _
  | req sid r =>
    unfold runTask
    refine kr_bind_keeps (kr_of_within (keeps_forIn _ _ fun vs _ hvs => keeps_bind (keeps_getSortedVs sc U vs
      (within_getCandidates hF U _ fun s hFs => mentioned_of_vsets (ht s hFs) hvs)) fun _ => keeps_pure _)) fun _ =>
      keeps_onRequirementCandidates causalD_clauses causalD_tasks.keeps_queueSolvable _ _ _ _
  | cons sid vs =>
    exact kr_bind_keeps (kr_of_within (keeps_getNonMatching U vs
      (within_getCandidates hF U _ fun s hFs => mentioned_of_vsets (ht s hFs) (List.mem_singleton.mpr rfl)))) fun _ =>
      keeps_onConstraintCandidates causalD_clauses _ _ _

theorem km_startDeps (sv : Nat) : Keeps (causalD U P) (startDeps sv) := by
  unfold startDeps
  walk using km_pollCancel, km_logCall _ _, keeps_requestStarted causalD_scratch,
    km_modify _ fun _ => ⟨fun _ h => h, rfl, rfl⟩

theorem kr_finishDeps (F : S → Prop) (sv : Nat) : Kr U P F (finishDeps sv) (fun _ s => sv ∈ s.fetchedDeps) :=
  kr_of_tm_post F (km_modify _ fun _ => ⟨fun _ hx => List.mem_cons_of_mem _ hx, rfl, rfl⟩) fun _ => .eval rfl List.mem_cons_self

/-- a future is causal: its task is, and its children are the version sets of its task -/
def KATask (U : Universe) (P : Problem) (s : S) (t : ATask) : Prop :=
  KTask U P s t.task ∧ ((∃ sid r, t.task = .req sid r) ∨ (∃ sid vs, t.task = .cons sid vs) → t.children.map (·.vs) = taskVsets U t.task)

def KALegit (U : Universe) (P : Problem) (s : S) (a : AS) : Prop := ∀ t ∈ a.tasks, KATask U P s t

theorem kstable_katask (t : ATask) : KStable (fun s => KATask U P s t) := fun _ _ e h => ⟨ktask_mono e _ h.1, h.2⟩

/-- the dependencies a finished `deps` future hands over have been obtained -/
def ResObtained (s : S) : TaskResult → Prop
  | .deps sid _ => Obtained s sid
  | _ => True

theorem kstable_resObtained (r : TaskResult) : KStable (fun s => ResObtained s r) := by
  cases r with
  | deps sid d => exact kstable_obtained sid
  | _ => exact kstable_const _

/-- one poll of a causal future: the invariant is kept; a `deps` result is for a solvable whose dependencies are now cached -/
theorem kr_pollTask (F : S → Prop) (hF : KStable F) (U : Universe) (P : Problem) (t : ATask) (a : AS)
    (ht : ∀ s, F s → KATask U P s t) :
    Kr U P F (pollTask U P t a) (fun v s => ∀ r, v.2.2 = some r → ResObtained s r) := by
  -- the children of a requirement or constraint future ask about mentioned packages
  have children : ∀ sorted, (∃ sid r, t.task = .req sid r) ∨ (∃ sid vs, t.task = .cons sid vs) →
      Kr U P F (pollChildren U t.id sorted t.children a) (fun _ _ => True) := fun sorted hk =>
    kr_of_within (keeps_pollChildren (ignoresScratch_within hF.eff causalD_scratch) U t.id sorted t.children a fun c hc w a =>
      within_pollCands hF U t.id _ w a fun s h =>
        mentioned_of_vsets (ht s h).1 ((ht s h).2 hk ▸ List.mem_map.mpr ⟨c, hc, rfl⟩))
  unfold pollTask
  split
  · exact kr_pure_ctx _ fun _ _ _ e => by cases e; trivial
  · next sv _ =>
    refine kr_get_bind_at fun s0 => ?_
    split
    · -- the state that was read decides whether the answer is cached already
      refine kr_ite (fun hc => kr_pure_ctx _ fun _ h _ e => by cases e; exact h.2 ▸ List.contains_iff_mem.mp hc) fun _ => ?_
      exact kr_weaken (kr_bind hF (kr_of_tm F (km_startDeps sv)) fun _ => kr_pure_ctx _ fun _ _ _ e => nomatch e)
        (fun _ h => h.1) fun _ _ h => h
    · refine kr_ite (fun _ => ?_) fun _ => kr_pure_ctx _ fun _ _ _ e => nomatch e
      exact kr_weaken (kr_bind hF (kr_finishDeps F sv) fun _ => kr_pure_ctx _ fun _ h _ e => by cases e; exact h.2)
        (fun _ h => h.1) fun _ _ h => h
  · next n htask =>
    refine kr_bind hF (kr_of_within (within_pollCands hF U t.id n t.wait a fun s h =>
      (show KTask U P s (.pkg n) from htask ▸ (ht s h).1))) fun _ => ?_
    exact kr_ite (fun _ => kr_pure_ctx _ fun _ _ _ e => by cases e; trivial) fun _ => kr_pure_ctx _ fun _ _ _ e => nomatch e
  · next sid r htask =>
    refine kr_bind hF (children true (.inl ⟨sid, r, htask⟩)) fun _ => ?_
    exact kr_ite (fun _ => kr_pure_ctx _ fun _ _ _ e => by cases e; trivial) fun _ => kr_pure_ctx _ fun _ _ _ e => nomatch e
  · next sid vs htask =>
    refine kr_bind hF (children false (.inr ⟨sid, vs, htask⟩)) fun _ => ?_
    exact kr_ite (fun _ => kr_pure_ctx _ fun _ _ _ e => by cases e; trivial) fun _ => kr_pure_ctx _ fun _ _ _ e => nomatch e

/-- the callback of a finished future; only that of a `deps` future writes the work list -/
theorem kr_runCallback (F : S → Prop) (hF : KStable F) (U : Universe) (P : Problem) (t : Task) (cs : List Child)
    (ho : ∀ s, F s → ResObtained s (answerOf U P cs t)) : Kr U P F (runCallback U P (answerOf U P cs t)) (fun _ _ => True) := by
  cases t with
  | deps sid => cases sid <;> exact kr_onDependencies F hF U P _ _ ho rfl
  | pkg n => exact kr_of_tm F (keeps_onCandidates causalD_clauses _ _)
  | req sid r => exact kr_of_tm F (keeps_onRequirementCandidates causalD_clauses causalD_tasks.keeps_queueSolvable _ _ _ _)
  | cons sid vs => exact kr_of_tm F (keeps_onConstraintCandidates causalD_clauses _ _ _)

/-- the futures of the encoder loop (`MDet/TaskWalk.lean`) are the causal ones; of a result the loop has to know that
    the dependencies it hands over have been obtained -/
theorem causalD_futures (U : Universe) (P : Problem) :
    Futures (causalD U P) (KTask U P) U P (KATask U P) (fun r s => ResObtained s r) where
  stable := kstable_katask
  stableRes := kstable_resObtained
  adopt s t x ht h1 h2 h3 := by
    subst h1
    refine ⟨ht, ?_⟩
    rintro (⟨sid, r, e⟩ | ⟨sid, vs, e⟩)
    · rw [e]; exact h2 sid r e
    · rw [e]; exact h3 sid vs e
  same s t t' h1 h2 h := by unfold KATask; rw [h1, h2]; exact h
  poll t a := kr_pollTask _ (kstable_katask t) U P t a fun _ h => h
  callback t cs _ := kr_runCallback _ (kstable_and (kstable_katask t) (kstable_resObtained _)) U P t.task cs fun _ h => h.2

theorem kr_asyncStep (F : S → Prop) (hF : KStable F) (U : Universe) (P : Problem) (a : AS) (ha : ∀ s, F s → KALegit U P s a) :
    Kr U P F (asyncStep U P a) (fun r s => ∀ a', r = some a' → KALegit U P s a') :=
  kr_weaken (F := fun s => KALegit U P s a) (G := fun r s => ∀ a', r = some a' → KALegit U P s a')
    (causalD_tasks.triple_asyncStep (causalD_futures U P) a) ha fun _ _ h => h

theorem km_encode (U : Universe) (P : Problem) (sv : List SoR) (fuel : Nat) : Keeps (causalD U P) (encode U P sv fuel) :=
  causalD_tasks.keeps_encode (causalD_futures U P) (fun t => kr_runTask _ (kstable_ktask t) U P t fun _ h => h) sv fuel

theorem causalD_solver (U : Universe) (P : Problem) : SolverPrims (causalD U P) U P where
  scratch := causalD_scratch
  pollCancel := km_pollCancel
  internSolvable := causalD_clauses.internSolvable
  tryAdd := keeps_tryAdd causalD_scratch causalD_decisions
  undoLast := keeps_undoLast causalD_scratch causalD_decisions
  clear _ := causalD_decisions _ _ _ _
  nextUnpropagated := keeps_nextUnpropagated causalD_decisions
  allocLearnt _ _ := causalD_clauses.allocClause _ _
  rewatch _ _ _ _ _ h := kinv_of_view h rfl rfl rfl
  encode := km_encode U P

theorem kinv_reset (s : S) : KInv U P (solveReset s) := ⟨fun _ h => (nomatch h), fun _ h => (nomatch h)⟩

/-- **Candidates are requested causally** (every universe, problem, fuel and solver state carried over from earlier solves
    — cache, hints, cancellation plan, completion order of an asynchronous provider —; whatever the outcome): after a solve, every `get_candidates`
    request issued during it was for a package name mentioned by dependency information the solver holds — a requirement
    or constrains entry of the root, or of a solvable whose dependencies are in the cache. The invariant holds in every
    intermediate state as well (it is maintained by every function of the model), so the dependencies had been obtained
    when the request was issued. -/
theorem solveRun_kinv (U : Universe) (P : Problem) (fuel : Nat) (s : S) :
    KInv U P (solveRun U P fuel s).2 :=
  solveRun_inv (keeps_solve (causalD_solver U P) (fun s _ => ⟨kinv_reset s, fun _ hx => hx⟩) (causalD_clauses.allocClause _ _)
    (keeps_addForbidMultiple causalD_clauses U) fuel) (kinv_reset s)

end Resolvo.MDet.Causal

