import Resolvo.MDet.ModelGraphDef
import Resolvo.MDet.TruthSpec
import Resolvo.RenderTruth
/-!
# The conflict graph of the exact model's own state has only true edges

`modelGraph U s ids` is the exact model of `Conflict::graph` (`Render.buildGraph`: petgraph insertion order and all)
applied to the clause arena and variable map of a state of the exact model of `Solver::solve`. Since every clause that
state holds states a true fact (`solveRun_tinv`), every edge of the graph does — whatever clauses are blamed, with no
checker in between. The correspondence compares this very graph (from the model's own final state and its own conflict)
with the implementation's on every generated unsolvable case, and the model's clause kinds / variable origins with the
implementation's on every case.
-/
namespace Resolvo.MDet
open Resolvo Resolvo.Sat Resolvo.Abs

theorem wfuB_sound (U : Universe) (h : wfuB U = true) : WFU U := by
  simp only [wfuB, Bool.and_eq_true, List.all_eq_true] at h
  have hm : ∀ {n p}, U.pkg? n = some p → (n, p) ∈ U.pkgs := fun hp => Resolvo.mem_of_lookup _ _ _ hp
  exact ⟨fun n p hp c hc => by simpa using h.1 _ (hm hp) c hc, fun n p hp e he => by simpa using (h.2 _ (hm hp)).2 e he,
    fun n p l hp hl => by simpa [hl] using (h.2 _ (hm hp)).1⟩

theorem kindsOf_true {U : Universe} {P : Problem} {s : S} (h : TInv U P s) (ids : List Nat) :
    ∀ k ∈ kindsOf s ids, KindTrue U P s.origins k := by
  intro k hk
  obtain ⟨id, _, hid⟩ := List.mem_filterMap.mp hk
  obtain ⟨c, hc, rfl⟩ := Option.map_eq_some_iff.mp hid
  exact h.kinds c (Array.mem_def.mp (Array.mem_of_getElem? hc))

/-- **Every edge of the conflict graph of the exact model states a true fact of the provider's data**: for every universe
    that respects the provider contract, every problem, every solver state carried over from earlier solves (cache, cancellation
    plan, asynchronous completion order, activity parameters), every fuel and whatever clauses are blamed. -/
theorem modelGraph_edges_true (U : Universe) (hU : WFU U) (P : Problem) (fuel : Nat) (s : S) (ids : List Nat) :
    ∀ x ∈ Render.nodeEdges (modelGraph U (solveRun U P fuel s).2 ids), Render.EdgeTrue U P x.1 x.2.1 x.2.2 :=
  Render.buildGraph_kinds_true U P _ _ (kindsOf_true (solveRun_tinv U hU P fuel s) ids)

end Resolvo.MDet
