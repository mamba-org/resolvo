import Resolvo.MDet.AsyncOnce
/-!
# Run-level at-most-once for dependency requests in the asynchronous encoder model (C10)

`get_dependencies(s)` is requested by the future of the task `deps s`; such a task is pushed by `queue_solvable` only,
which first consults (and extends) the solve-wide set of processed solvables. `DInv`: the `deps` tasks that exist
(adopted or still in the push queue) are pairwise distinct and all recorded as processed, every solvable whose
dependencies have been requested in this solve is recorded as processed, and a task that has not started yet has not
been requested. One step of the encoder loop preserves it — for every universe, problem, solver state and completion
order — so `get_dependencies` is never issued twice for one solvable (`C10.at_most_once_dependencies`).

The callbacks of the encoder are covered by a relational specification (`QR`: what they may do to the push queue,
the processed set and the request record), carried through them by `MDet/Walk.lean`.
-/
namespace Resolvo.MDet
open Resolvo Resolvo.Sat Resolvo.Abs

/-- the solvables whose `deps` task occurs in a list of tasks -/
def depsOf (l : List Task) : List Nat :=
  l.filterMap (fun t => match t with | .deps (some sv) => some sv | _ => none)

theorem depsOf_append (a b : List Task) : depsOf (a ++ b) = depsOf a ++ depsOf b := by
  unfold depsOf; rw [List.filterMap_append]

theorem mem_depsOf (q : List Task) (sv : Nat) : sv ∈ depsOf q ↔ Task.deps (some sv) ∈ q := by
  unfold depsOf
  rw [List.mem_filterMap]
  refine ⟨fun ⟨t, ht, hm⟩ => ?_, fun h => ⟨_, h, rfl⟩⟩
  split at hm
  · cases hm; exact ht
  · cases hm

theorem depsOf_cons (t : Task) (q : List Task) : depsOf (t :: q) = depsOf [t] ++ depsOf q := by
  have : t :: q = [t] ++ q := rfl
  rw [this, depsOf_append]

theorem mem_depsOf_single (t : Task) (sv : Nat) : sv ∈ depsOf [t] ↔ t = .deps (some sv) := by
  rw [mem_depsOf]; simp [eq_comm]

/-- what a callback may do: the request record is untouched, the processed set grows, the push queue is extended by
    tasks whose `deps` entries are new (not processed before, processed now) and pairwise distinct -/
def QR (s s' : S) : Prop :=
  s'.issuedDeps = s.issuedDeps ∧ (∀ x ∈ s.addedSolv, x ∈ s'.addedSolv) ∧
  ∃ new, s'.queue = s.queue ++ new ∧ (depsOf new).Nodup ∧
    ∀ sv ∈ depsOf new, some sv ∉ s.addedSolv ∧ some sv ∈ s'.addedSolv

theorem QR.of_view {s s' : S} (h1 : s'.issuedDeps = s.issuedDeps) (h2 : s'.addedSolv = s.addedSolv) (h3 : s'.queue = s.queue) :
    QR s s' := ⟨h1, fun x hx => by rw [h2]; exact hx, [], by simp [h3], List.Pairwise.nil, fun _ h => by cases h⟩

theorem QR.refl (s : S) : QR s s := .of_view rfl rfl rfl

theorem QR.of_deps {s s' : S} (h : depsView s' = depsView s) : QR s s' :=
  .of_view (congrArg (·.1) h) (congrArg (·.2.1) h) (congrArg (·.2.2) h)

theorem QR.trans {a b c : S} (h1 : QR a b) (h2 : QR b c) : QR a c := by
  obtain ⟨i1, s1, n1, q1, d1, f1⟩ := h1
  obtain ⟨i2, s2, n2, q2, d2, f2⟩ := h2
  refine ⟨i2.trans i1, fun x hx => s2 x (s1 x hx), n1 ++ n2, by rw [q2, q1, List.append_assoc], ?_, ?_⟩
  · rw [depsOf_append]
    refine List.nodup_append.mpr ⟨d1, d2, ?_⟩
    intro x hx1 y hy2 hxy
    subst hxy
    exact (f2 x hy2).1 (f1 x hx1).2
  · intro sv hsv
    rw [depsOf_append] at hsv
    rcases List.mem_append.mp hsv with h | h
    · exact ⟨(f1 sv h).1, s2 _ (f1 sv h).2⟩
    · exact ⟨fun hm => (f2 sv h).1 (s1 _ hm), (f2 sv h).2⟩

def QSpecAt {α : Type} (x : M α) (s : S) : Prop := QR s (runM x s).2
def QSpec {α : Type} (x : M α) : Prop := ∀ s, QSpecAt x s

def qrD : Discipline := .ofRel QR QR.refl QR.trans

theorem qspec_iff {α : Type} {x : M α} : QSpec x ↔ Keeps qrD x :=
  ⟨fun h => ⟨fun s => keepsAt_def.mpr fun _ => ⟨trivial, h s⟩⟩, fun h s => (keepsAt_def.mp (h.on s) trivial).2⟩

theorem qspec_throw {α : Type} (e : Stop) : QSpec (throw e : M α) := fun s => QR.refl s

theorem qrD_step {s s' : S} (h : QR s s') : qrD.Step s s' := fun _ => ⟨trivial, h⟩

theorem qrD_scratch : qrD.IgnoresScratch := fun h =>
  qrD_step (QR.of_view (congrArg Obs.issuedDeps h) (congrArg Obs.addedSolv h) (congrArg Obs.queue h))

theorem qrD_queueSolvable (sid : SoR) : Keeps qrD (queueSolvable sid) := by
  unfold queueSolvable
  refine keeps_get_bind fun s => keepsAt_ite (fun _ => (keeps_pure _).on s) fun hn => ?_
  refine keepsAt_set_bind (qrD_step ⟨rfl, fun x hx => List.mem_cons_of_mem _ hx, [Task.deps sid], rfl, ?_, ?_⟩)
    ((keeps_emit qrD_scratch _).on _)
  · cases sid <;> simp [depsOf]
  · intro sv hsv
    cases (mem_depsOf_single _ sv).mp hsv
    exact ⟨fun hm => hn (List.contains_iff_mem.mpr hm), List.mem_cons_self⟩

theorem qr_push {s s' : S} (t : Task) (ht : depsOf [t] = []) (h1 : s'.issuedDeps = s.issuedDeps) (h2 : s'.addedSolv = s.addedSolv)
    (h3 : s'.queue = s.queue ++ [t]) : QR s s' :=
  ⟨h1, fun x hx => h2 ▸ hx, [t], h3, by rw [ht]; exact List.Pairwise.nil, fun sv hsv => by rw [ht] at hsv; cases hsv⟩

theorem qrD_callbacks : CallbackPrims qrD where
  scratch := qrD_scratch
  internSolvable := keeps_internSolvable qrD_scratch fun _ _ _ _ => qrD_step (QR.of_view rfl rfl rfl)
  allocForbidVar := keeps_allocForbidVar qrD_scratch fun _ _ _ _ => qrD_step (QR.of_view rfl rfl rfl)
  allocClause := keeps_allocClause qrD_scratch fun _ _ => qrD_step (QR.of_view rfl rfl rfl)
  queueSolvable := qrD_queueSolvable
  queuePackage n := by
    unfold queuePackage
    exact keeps_get_bind fun s => keepsAt_ite (fun _ => (keeps_pure _).on s) fun _ =>
      keepsAt_set_bind (qrD_step (qr_push (.pkg n) rfl rfl rfl rfl)) ((keeps_emit qrD_scratch _).on _)
  pushReq sid r := keeps_modify fun _ => qrD_step (qr_push (.req sid r) rfl rfl rfl rfl)
  pushCons sid vs := keeps_modify fun _ => qrD_step (qr_push (.cons sid vs) rfl rfl rfl rfl)
  trackers _ _ := qrD_step (QR.of_view rfl rfl rfl)
  reqCands _ _ := qrD_step (QR.of_view rfl rfl rfl)

theorem qr_runCallback (U : Universe) (P : Problem) (r : TaskResult) (s : S) : QR s (runM (runCallback U P r) s).2 :=
  qspec_iff.mpr (keeps_runCallback qrD_callbacks U P r) s

/-- `q` is the push queue (tasks pushed by callbacks, not yet adopted by the encoder loop) -/
structure DInv (a : AS) (s : S) (q : List Task) : Prop where
  nd : s.issuedDeps.Nodup
  iss : ∀ sv ∈ s.issuedDeps, some sv ∈ s.addedSolv
  tAdded : ∀ t ∈ a.tasks, ∀ sv, t.task = .deps (some sv) → some sv ∈ s.addedSolv
  tUniq : ∀ t1 ∈ a.tasks, ∀ t2 ∈ a.tasks, ∀ sv, t1.task = .deps (some sv) → t2.task = .deps (some sv) → t1.id = t2.id
  tFresh : ∀ t ∈ a.tasks, ∀ sv, t.task = .deps (some sv) → t.wait = .notStarted → sv ∉ s.issuedDeps
  qNd : (depsOf q).Nodup
  qNew : ∀ sv ∈ depsOf q, sv ∉ s.issuedDeps ∧ some sv ∈ s.addedSolv ∧ ∀ t ∈ a.tasks, t.task ≠ .deps (some sv)

/-- anything that satisfies `QR` (callbacks, polls of other futures, the executor) preserves the invariant -/
theorem dinv_qr {a : AS} {s s' : S} (h : DInv a s s.queue) (hq : QR s s') : DInv a s' s'.queue := by
  obtain ⟨hi, hsub, new, hqueue, hnd, hnew⟩ := hq
  refine ⟨by rw [hi]; exact h.nd, fun sv hsv => hsub _ (h.iss sv (hi ▸ hsv)),
    fun t ht sv hsv => hsub _ (h.tAdded t ht sv hsv), h.tUniq,
    fun t ht sv hsv hw => by rw [hi]; exact h.tFresh t ht sv hsv hw, ?_, ?_⟩
  · rw [hqueue, depsOf_append]
    refine List.nodup_append.mpr ⟨h.qNd, hnd, ?_⟩
    intro x hx y hy hxy
    subst hxy
    exact (hnew x hy).1 (h.qNew x hx).2.1
  · intro sv hsv
    rw [hqueue, depsOf_append] at hsv
    rcases List.mem_append.mp hsv with h1 | h1
    · obtain ⟨f1, f2, f3⟩ := h.qNew sv h1
      exact ⟨by rw [hi]; exact f1, hsub _ f2, f3⟩
    · obtain ⟨g1, g2⟩ := hnew sv h1
      refine ⟨?_, g2, ?_⟩
      · rw [hi]; intro hm; exact g1 (h.iss sv hm)
      · intro t ht he; exact g1 (h.tAdded t ht sv he)

theorem adoptOne_tasks (U : Universe) (a : AS) (t : Task) :
    ∃ nt : ATask, (adoptOne U a t).tasks = a.tasks ++ [nt] ∧ nt.id = a.nextId ∧ nt.task = t ∧ nt.wait = .notStarted :=
  ⟨_, rfl, rfl, rfl, rfl⟩

theorem dinv_frame {a a' : AS} {s : S} {q : List Task} (h : DInv a s q) (ht : a'.tasks = a.tasks) : DInv a' s q :=
  ⟨h.nd, h.iss, by rw [ht]; exact h.tAdded, by rw [ht]; exact h.tUniq, by rw [ht]; exact h.tFresh, h.qNd,
   fun sv hsv => by rw [ht]; exact h.qNew sv hsv⟩

/-- A polled future is written back. `new` are the requests its poll recorded: none, or that of the `deps` future itself
    on its first poll, which is not "not started" any more afterwards. -/
theorem dinv_poll {a a' : AS} {s s' : S} {q : List Task} {t t' : ATask} {new : List Nat} (h : DInv a s q) (ht : t ∈ a.tasks)
    (hid : t'.id = t.id) (htask : t'.task = t.task)
    (ha : a'.tasks = a.tasks.map (fun x => if x.id == t.id then t' else x))
    (hi : s'.issuedDeps = new ++ s.issuedDeps) (hadd : s'.addedSolv = s.addedSolv) (hnd : new.Nodup)
    (hnew : ∀ x ∈ new, t.task = .deps (some x) ∧ t.wait = .notStarted)
    (hw : t'.wait = .notStarted → t.wait = .notStarted ∧ new = []) : DInv a' s' q := by
  have hsplit : ∀ y, y ∈ a'.tasks → y = t' ∨ (y ∈ a.tasks ∧ y.id ≠ t.id) := by
    intro y hy
    obtain ⟨x, hx, rfl⟩ := List.mem_map.mp (ha ▸ hy)
    split
    · exact .inl rfl
    · next e => exact .inr ⟨hx, by simpa using e⟩
  refine ⟨?_, ?_, ?_, ?_, ?_, h.qNd, ?_⟩
  · rw [hi]
    exact List.nodup_append.mpr ⟨hnd, h.nd, fun x hx y hy e => h.tFresh t ht x (hnew x hx).1 (hnew x hx).2 (e ▸ hy)⟩
  · intro x hx
    rw [hadd]
    rcases List.mem_append.mp (hi ▸ hx) with h1 | h1
    · exact h.tAdded t ht x (hnew x h1).1
    · exact h.iss x h1
  · intro y hy x hx
    rw [hadd]
    rcases hsplit y hy with rfl | ⟨h1, _⟩
    · exact h.tAdded t ht x (htask ▸ hx)
    · exact h.tAdded y h1 x hx
  · intro y1 hy1 y2 hy2 x h1 h2
    rcases hsplit y1 hy1 with rfl | ⟨g1, _⟩ <;> rcases hsplit y2 hy2 with rfl | ⟨g2, _⟩
    · rfl
    · rw [hid]; exact h.tUniq t ht y2 g2 x (htask ▸ h1) h2
    · rw [hid]; exact h.tUniq y1 g1 t ht x h1 (htask ▸ h2)
    · exact h.tUniq y1 g1 y2 g2 x h1 h2
  · intro y hy x hx hwy
    rw [hi]
    rcases hsplit y hy with rfl | ⟨h1, hne⟩
    · rw [(hw hwy).2]; exact h.tFresh t ht x (htask ▸ hx) (hw hwy).1
    · intro hm
      rcases List.mem_append.mp hm with h2 | h2
      · exact hne (h.tUniq y h1 t ht x hx (hnew x h2).1)
      · exact h.tFresh y h1 x hx hwy h2
  · intro x hx
    obtain ⟨f1, f2, f3⟩ := h.qNew x hx
    refine ⟨?_, hadd ▸ f2, fun y hy he => ?_⟩
    · rw [hi]
      intro hm
      rcases List.mem_append.mp hm with h2 | h2
      · exact f3 t ht (hnew x h2).1
      · exact f1 h2
    · rcases hsplit y hy with rfl | ⟨h1, _⟩
      · exact f3 t ht (htask ▸ he)
      · exact f3 y h1 he

theorem dinv_invariant (U : Universe) (P : Problem) : LoopInvariant U P fun a s => DInv a s s.queue where
  adopt {a s t q} e h := by
    rw [e] at h
    obtain ⟨nt, htasks, -, rfl, -⟩ := adoptOne_tasks U a t
    have hsplit : ∀ x ∈ (adoptOne U a nt.task).tasks, x ∈ a.tasks ∨ x = nt := fun x hx => by rw [htasks] at hx; simpa using hx
    obtain ⟨-, hq2, hdisj⟩ := List.nodup_append.mp (depsOf_cons nt.task q ▸ h.qNd)
    -- what the invariant said of the adopted future while it was the head of the push queue
    have hhead : ∀ sv, nt.task = .deps (some sv) →
        sv ∉ s.issuedDeps ∧ some sv ∈ s.addedSolv ∧ ∀ x ∈ a.tasks, x.task ≠ .deps (some sv) := fun sv e =>
      h.qNew sv (depsOf_cons .. ▸ List.mem_append_left _ ((mem_depsOf_single _ sv).mpr e))
    refine ⟨h.nd, h.iss, fun x hx sv hsv => ?_, fun x1 hx1 x2 hx2 sv h1 h2 => ?_, fun x hx sv hsv hw => ?_, hq2, fun sv hsv => ?_⟩
    · rcases hsplit x hx with g | rfl
      · exact h.tAdded x g sv hsv
      · exact (hhead sv hsv).2.1
    · rcases hsplit x1 hx1 with g1 | rfl <;> rcases hsplit x2 hx2 with g2 | rfl
      · exact h.tUniq x1 g1 x2 g2 sv h1 h2
      · exact absurd h1 ((hhead sv h2).2.2 x1 g1)
      · exact absurd h2 ((hhead sv h1).2.2 x2 g2)
      · rfl
    · rcases hsplit x hx with g | rfl
      · exact h.tFresh x g sv hsv hw
      · exact (hhead sv hsv).1
    · obtain ⟨f1, f2, f3⟩ := h.qNew sv (depsOf_cons .. ▸ List.mem_append_right _ hsv)
      refine ⟨f1, f2, fun x hx he => ?_⟩
      rcases hsplit x hx with g | rfl
      · exact f3 x g he
      · exact hdisj sv ((mem_depsOf_single _ sv).mpr he) sv hsv rfl
  turn hp h := dinv_frame (dinv_qr h (.of_deps hp.deps)) hp.frame.tasks
  skip _ _ h := dinv_frame h rfl
  poll {a _ rest t t' a3 _ s3} _ htm post h := by
    have ha := congrArg (List.map fun x => if x.id == t.id then t' else x) post.frame.tasks
    rcases post.deps with ⟨sv, htd, hns, hw', hv⟩ | ⟨hv, hw⟩
    · rw [show s3.queue = _ from congrArg (·.2.2) hv]
      exact dinv_poll (new := [sv]) h htm post.id post.task ha (congrArg (·.1) hv) (congrArg (·.2.1) hv)
        (List.pairwise_singleton _ sv) (fun x hx => List.mem_singleton.mp hx ▸ ⟨htd, hns⟩) (absurd · hw')
    · rw [show s3.queue = _ from congrArg (·.2.2) hv]
      exact dinv_poll (new := []) h htm post.id post.task ha (congrArg (·.1) hv) (congrArg (·.2.1) hv)
        List.nodup_nil (fun _ h => nomatch h) fun e => ⟨hw e, rfl⟩
  callback r h := dinv_qr h (qr_runCallback U P r _)

theorem asyncStep_dinv (U : Universe) (P : Problem) (a : AS) (s s' : S) (a' : AS) (hi : DInv a s s.queue)
    (h : runM (asyncStep U P a) s = (.ok (some a'), s')) : DInv a' s' s'.queue :=
  (dinv_invariant U P).post hi _ _ h

/-- the states the encoder loop reaches from `s0` with nothing adopted (the same relation as `ReachFrom`) -/
inductive ReachD (U : Universe) (P : Problem) (s0 : S) : AS → S → Prop
  | start : ReachD U P s0 {} s0
  | step {a a' : AS} {s s' : S} : ReachD U P s0 a s → runM (asyncStep U P a) s = (.ok (some a'), s') → ReachD U P s0 a' s'

theorem dinv_fresh (s : S) (h1 : s.issuedDeps = []) (h2 : s.queue = []) : DInv {} s s.queue := by
  refine ⟨by rw [h1]; exact List.Pairwise.nil, by (intro sv h; rw [h1] at h; cases h), by (intro t h; cases h),
    by (intro t h; cases h), by (intro t h; cases h), by rw [h2]; exact List.Pairwise.nil, ?_⟩
  intro sv h; rw [h2] at h; cases h

end Resolvo.MDet
