import Resolvo.MDet.TaskWalk
/-!
# At most once per solver: provider requests of the synchronous model along every history (C09, C13)

`Once s`: with a synchronous provider, the requests recorded in the structured call log are pairwise distinct, and
whatever was requested is in the cache (`fetchedCands` / `fetchedDeps`) — so it is never requested again, in this
solve or in any later solve on the same solver. The two functions that issue requests keep it
(`maintains_getCandidates`, `maintains_getDeps`), hence (`MDet/Walk.lean`) so does `solve` (`maintains_solve`) and every
history of solves (`Props/C09.lean`).
-/
namespace Resolvo.MDet
open Resolvo Resolvo.Sat Resolvo.Abs

/-- the requests (`call` entries) of a structured call log -/
def callsOf (l : List GEv) : List (Bool × Nat) :=
  l.filterMap (fun e => match e with | .call c i => some (c, i) | _ => none)

structure Once (s : S) : Prop where
  sync : s.asyncMode = false
  nodup : (callsOf s.glog).Nodup
  cands : ∀ n, (true, n) ∈ callsOf s.glog → n ∈ s.fetchedCands
  deps : ∀ sv, (false, sv) ∈ callsOf s.glog → sv ∈ s.fetchedDeps

def MaintainsAt {α : Type} (x : M α) (s : S) : Prop := Once s → Once (runM x s).2
def Maintains {α : Type} (x : M α) : Prop := ∀ s, MaintainsAt x s

def onceD : Discipline := .ofInv Once

theorem maintains_iff {α : Type} {x : M α} : Maintains x ↔ Keeps onceD x :=
  ⟨fun h => ⟨fun s => keepsAt_ofInv.mpr (h s)⟩, fun h s => keepsAt_ofInv.mp (h.on s)⟩

theorem maintainsAt_quiet {α : Type} (x : M α) (s : S) (h : Once s → Once (runM x s).2) : MaintainsAt x s := h

theorem once_of_view {s s' : S} (h : Once s) (h1 : s'.asyncMode = s.asyncMode) (h2 : s'.glog = s.glog)
    (h3 : s'.fetchedCands = s.fetchedCands) (h4 : s'.fetchedDeps = s.fetchedDeps) : Once s' :=
  ⟨by rw [h1]; exact h.sync, by rw [h2]; exact h.nodup, by rw [h2, h3]; exact h.cands, by rw [h2, h4]; exact h.deps⟩

/-- in the form `keeps_solve_of_provider` asks for (`Once` does not read the textual log) -/
theorem onceD_provider {s s' : S} (hc : s'.fetchedCands = s.fetchedCands) (hd : s'.fetchedDeps = s.fetchedDeps) (_ : s'.log = s.log)
    (hg : s'.glog = s.glog) (ha : s'.asyncMode = s.asyncMode) : onceD.Step s s' := fun h => ⟨once_of_view h ha hg hc hd, trivial⟩

theorem onceD_scratch : onceD.IgnoresScratch := (callbackPrims_of_provider onceD_provider).scratch

theorem callsOf_poll (k : Nat) (f : Bool) (l : List GEv) : callsOf (.poll k f :: l) = callsOf l := rfl
theorem callsOf_call (c : Bool) (i : Nat) (l : List GEv) : callsOf (.call c i :: l) = (c, i) :: callsOf l := rfl

theorem onceD_pollCancel : Keeps onceD pollCancel :=
  ⟨fun s => keepsAt_of_step id (by rw [runM_pollCancel]; split <;> exact fun hs => ⟨⟨hs.sync, hs.nodup, hs.cands, hs.deps⟩, trivial⟩)⟩

/-- a request `(c, i)` is logged and `i` enters its cache; the request is new because `i` was not in that cache -/
theorem once_request {s s' : S} (h : Once s) (c : Bool) (i : Nat) (hn : i ∉ (if c then s.fetchedCands else s.fetchedDeps))
    (h1 : s'.asyncMode = s.asyncMode) (h2 : s'.glog = .call c i :: s.glog)
    (h3 : s'.fetchedCands = if c then i :: s.fetchedCands else s.fetchedCands)
    (h4 : s'.fetchedDeps = if c then s.fetchedDeps else i :: s.fetchedDeps) : Once s' := by
  refine ⟨h1 ▸ h.sync, ?_, fun m hm => ?_, fun m hm => ?_⟩
  · rw [h2, callsOf_call]
    refine List.nodup_cons.mpr ⟨fun hm => hn ?_, h.nodup⟩
    cases c
    · exact h.deps i hm
    · exact h.cands i hm
  all_goals
    rw [h2, callsOf_call] at hm
    cases c <;> simp only [h3, h4, Bool.false_eq_true, if_false, if_true] <;> rcases List.mem_cons.mp hm with e | hm
  · cases e
  · exact h.cands m hm
  · cases e; exact List.mem_cons_self
  · exact List.mem_cons_of_mem _ (h.cands m hm)
  · cases e; exact List.mem_cons_self
  · exact List.mem_cons_of_mem _ (h.deps m hm)
  · cases e
  · exact h.deps m hm

theorem maintains_getCandidates (U : Universe) (n : Nat) : Maintains (getCandidates U n) := by
  refine maintains_iff.mpr ?_
  unfold getCandidates
  refine keeps_get_bind fun s => keepsAt_ite (fun hnot => ?_) fun _ => (keeps_pure _).on s
  -- the request is new: its package is not in the cache, so it was never requested
  refine keepsAt_bind (onceD_pollCancel.on s) fun _ s1 h1 => ?_
  obtain rfl := pollCancel_post _ _ h1
  refine keepsAt_modify_bind (fun hs1 => ⟨once_request hs1 true n (by simpa using hnot) rfl rfl rfl rfl, trivial⟩) (Keeps.on ?_ _)
  walk using keeps_requestStarted onceD_scratch

theorem maintains_getDeps (U : Universe) (sv : Nat) : Maintains (getDeps U sv) := by
  refine maintains_iff.mpr ?_
  unfold getDeps
  refine keeps_get_bind fun s => keepsAt_ite (fun hnot => ?_) fun _ => (keeps_pure _).on s
  refine keepsAt_bind (onceD_pollCancel.on s) fun _ s1 h1 => ?_
  obtain rfl := pollCancel_post _ _ h1
  refine keepsAt_modify_bind (fun hs1 => ⟨once_request hs1 false sv (by simpa using hnot) rfl rfl rfl rfl, trivial⟩) (Keeps.on ?_ _)
  walk using keeps_requestStarted onceD_scratch

/-- with a synchronous provider `encode` is `encodeSync` -/
theorem onceD_encode (U : Universe) (P : Problem) (sv : List SoR) (fuel : Nat) : Keeps onceD (encode U P sv fuel) := by
  unfold encode
  refine keeps_get_bind fun s => keepsAt_of_inv fun hs => ?_
  rw [if_neg (by simp [hs.sync])]
  exact (keeps_encodeSync (callbackPrims_of_provider onceD_provider) (fun _ _ _ => onceD_provider rfl rfl rfl rfl rfl) (fun U n => maintains_iff.mp (maintains_getCandidates U n))
    (fun U sv => maintains_iff.mp (maintains_getDeps U sv)) U P sv fuel).on s

theorem maintains_solve (U : Universe) (P : Problem) (fuel : Nat) : Maintains (solve U P fuel) :=
  maintains_iff.mpr (keeps_solve_of_provider onceD_provider onceD_pollCancel (onceD_encode U P) fuel)

/-- **No provider request is ever repeated on one solver** (synchronous provider): one solve preserves `Once`. -/
theorem solveRun_once (U : Universe) (P : Problem) (fuel : Nat) (s : S) (h : Once s) : Once (solveRun U P fuel s).2 :=
  solveRun_inv (maintains_iff.mp (maintains_solve U P fuel)) (once_of_view h rfl rfl rfl rfl)

end Resolvo.MDet
