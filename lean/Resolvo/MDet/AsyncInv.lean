import Resolvo.MDet.AsyncPoll
/-!
# Run-level invariant of the asynchronous encoder model (C11)

`asyncStep` (one `pending_futures.next()` + callback) preserves `LoopInv`: every future the encoder has pushed is
either still in the ready queue or has been **started** (polled at least once: finished, its request issued, or
listening / parked on a gate). Hence at every quiescent point — the ready queue is empty, `next()` is `Pending`,
the executor takes its turn — every future pushed so far has been started, and by `C10.req_future_starts_every_version_set` every
version set of every requirement among them: no provider request waits for the answer to another one.
-/
namespace Resolvo.MDet
open Resolvo

/-- the invariant of the encoder loop: ids are fresh and distinct, and every pushed future is either still in the
    ready queue or has been started -/
structure LoopInv (a : AS) : Prop where
  ids : ∀ t ∈ a.tasks, t.id < a.nextId
  uniq : a.tasks.Pairwise (fun x y => x.id ≠ y.id)
  cover : ∀ t ∈ a.tasks, t.id ∈ a.ready ∨ t.started

theorem loopInv_empty : LoopInv {} := ⟨fun _ h => (by cases h), List.Pairwise.nil, fun _ h => (by cases h)⟩

theorem loopInv_invariant (U : Universe) (P : Problem) : LoopInvariant U P fun a _ => LoopInv a where
  -- adoption appends a future with the next id to the futures and its id to the ready queue
  adopt {a _ _ _} _ h :=
    { ids := fun x hx => (List.mem_append.mp hx).elim (fun hm => Nat.lt_succ_of_lt (h.ids x hm))
        fun he => List.mem_singleton.mp he ▸ Nat.lt_succ_self a.nextId
      uniq := List.pairwise_append.mpr ⟨h.uniq, List.pairwise_singleton _ _,
        fun x hx _ hy => List.mem_singleton.mp hy ▸ Nat.ne_of_lt (h.ids x hx)⟩
      cover := fun x hx => (List.mem_append.mp hx).elim (fun hm => (h.cover x hm).imp (List.mem_append_left _) id)
        fun he => .inl (List.mem_singleton.mp he ▸ List.mem_append_right _ List.mem_cons_self) }
  turn hp h :=
    ⟨fun t ht => by rw [hp.frame.nextId]; exact h.ids t (hp.frame.tasks ▸ ht), by rw [hp.frame.tasks]; exact h.uniq,
     fun t ht => (h.cover t (hp.frame.tasks ▸ ht)).elim (fun hr => Or.inl (hp.frame.ready _ hr)) Or.inr⟩
  skip {a _ tid _} hrd hfin h := by
    refine ⟨h.ids, h.uniq, fun x hx => ?_⟩
    by_cases hxid : x.id = tid
    · cases hfd : a.tasks.find? (fun t => t.id == tid) with
      | none => exact absurd hxid (by simpa using List.find?_eq_none.mp hfd x hx)
      | some t =>
        -- ids are unique, so the future found under this id is `x`
        have e : x = t := List.Pairwise.forall_of_forall_of_flip (R := fun x y : ATask => x.id = y.id → x = y)
          (fun _ _ _ => rfl) (h.uniq.imp fun hne e => absurd e hne) (h.uniq.imp fun hne e => absurd e.symm hne)
          hx (find?_id hfd).1 (hxid.trans (find?_id hfd).2.symm)
        exact .inr (.inl (e ▸ hfin t hfd))
    · exact (h.cover x hx).imp (fun hr => (List.mem_cons.mp (hrd ▸ hr)).resolve_left hxid) id
  -- the future written back is started now and has the id it had; the others are where they were
  poll {a _ _ t t' _ _ _} hrd _ post h := by
    have hid : ∀ x : ATask, (if (x.id == t.id) = true then t' else x).id = x.id := by
      intro x; split
      · next e => rw [post.id]; exact (by simpa using e : x.id = t.id).symm
      · rfl
    refine ⟨?_, ?_, ?_⟩ <;> dsimp only <;> rw [post.frame.tasks]
    · intro y hy
      obtain ⟨x, hx, rfl⟩ := List.mem_map.mp hy
      rw [hid, post.frame.nextId]; exact h.ids x hx
    · rw [List.pairwise_map]
      exact h.uniq.imp fun hxy => by rwa [hid, hid]
    · intro y hy
      obtain ⟨x, hx, rfl⟩ := List.mem_map.mp hy
      split
      · exact .inr post.started
      · next e =>
        exact (h.cover x hx).imp (fun hr => post.frame.ready _ ((List.mem_cons.mp (hrd ▸ hr)).resolve_left (by simpa using e))) id
  callback _ h := h

theorem asyncStep_inv (U : Universe) (P : Problem) (a : AS) (s s' : S) (a' : AS) (hi : LoopInv a)
    (h : runM (asyncStep U P a) s = (.ok (some a'), s')) : LoopInv a' :=
  (loopInv_invariant U P).post hi _ _ h

/-- the local states the encoder loop can reach from the empty one (any universe, problem, solver state, schedule) -/
inductive Reach (U : Universe) (P : Problem) : AS → S → Prop
  | start (s : S) : Reach U P {} s
  | step {a a' : AS} {s s' : S} : Reach U P a s → runM (asyncStep U P a) s = (.ok (some a'), s') → Reach U P a' s'

theorem reach_inv {U : Universe} {P : Problem} {a : AS} {s : S} (h : Reach U P a s) : LoopInv a := by
  induction h with
  | start s => exact loopInv_empty
  | step _ hs ih => exact asyncStep_inv U P _ _ _ _ ih hs

end Resolvo.MDet
