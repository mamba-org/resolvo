import Resolvo.MDet.TaskWalk
import Resolvo.Basics
/-!
# The decision tracker is consistent (every run of the model)

`DTInv s`: the assignment map (`DecisionMap`) and the decision stack (`DecisionTracker::stack`) of a state of the exact
model agree entry by entry — same variables in the same order with the same values —, no variable is on the stack twice,
and the propagation cursor never runs past the stack. Consequently `valueOf` (what `propagate`, `decide` and `analyze`
read) is `some b` exactly for the variables on the stack, with the value recorded there (`valueOf_iff`). It is kept by
`try_add_decision`, `undo_last` and `next_unpropagated`, the functions that write the tracker (`undo_until` is a loop of
`undo_last`), hence (`MDet/Walk.lean`) by every function of the model and after every solve: `solveRun_dtinv`.
-/
namespace Resolvo.MDet
open Resolvo Resolvo.Sat Resolvo.Abs

structure DTInv (s : S) : Prop where
  nodup : (s.stack.map (·.var)).Nodup
  agree : s.amap.map (fun e => (e.1, e.2.1)) = s.stack.map (fun d => (d.var, d.val))
  prop : s.propIdx ≤ s.stack.length

theorem keys_of_agree {amap : List (Nat × (Bool × Nat))} {stack : List Dec}
    (h : amap.map (fun e => (e.1, e.2.1)) = stack.map (fun d => (d.var, d.val))) : amap.map (·.1) = stack.map (·.var) := by
  have := congrArg (List.map Prod.fst) h
  rwa [List.map_map, List.map_map] at this

/-- what the solver reads as a variable's value is what the stack records for it -/
theorem valueOf_iff {s : S} (h : DTInv s) (v : Nat) (b : Bool) :
    valueOf s v = some b ↔ ∃ d ∈ s.stack, d.var = v ∧ d.val = b := by
  -- the map has distinct keys, so a lookup succeeds exactly for its entries; and its entries are those of the stack
  have hm : valueOf s v = some b ↔ (v, b) ∈ s.amap.map (fun e => (e.1, e.2.1)) := by
    unfold valueOf
    rw [Option.map_eq_some_iff, List.mem_map]
    exact ⟨fun ⟨x, hx, hb⟩ => ⟨_, mem_of_lookup _ _ _ hx, congrArg _ hb⟩, fun ⟨e, he, hv⟩ =>
      ⟨e.2, Resolvo.lookup_of_mem_nodup (keys_of_agree h.agree ▸ h.nodup) ((Prod.mk.inj hv).1 ▸ he), (Prod.mk.inj hv).2⟩⟩
  rw [hm, h.agree, List.mem_map]
  exact ⟨fun ⟨d, hd, e⟩ => ⟨d, hd, (Prod.mk.inj e).1, (Prod.mk.inj e).2⟩, fun ⟨d, hd, e1, e2⟩ => ⟨d, hd, e1 ▸ e2 ▸ rfl⟩⟩

def dtD : Discipline := .ofInv DTInv

theorem dtD_step {s s' : S} (h1 : s'.stack = s.stack) (h2 : s'.amap = s.amap) (h3 : s'.propIdx = s.propIdx) : dtD.Step s s' :=
  fun h => ⟨⟨by rw [h1]; exact h.nodup, by rw [h1, h2]; exact h.agree, by rw [h1, h3]; exact h.prop⟩, trivial⟩

theorem dtD_scratch : dtD.IgnoresScratch := fun h => dtD_step (congrArg Obs.stack h) (congrArg Obs.amap h) (congrArg Obs.propIdx h)

theorem dtD_tryAdd (v : Nat) (val : Bool) (reason level : Nat) : Keeps dtD (tryAdd v val reason level) := by
  unfold tryAdd
  refine keeps_get_bind fun s => ?_
  cases hv : valueOf s v with
  | some b => dsimp only; split <;> exact (keeps_pure _).on s
  | none =>
    refine keepsAt_ofInv.mpr fun hi => ?_
    simp only [runM_bind, emit, runM_modify, runM_pure]
    -- the variable is unassigned, so it is not on the stack
    have hnot : v ∉ s.stack.map (·.var) := fun hm => by
      obtain ⟨d, hd, hdv⟩ := List.mem_map.mp hm
      have := (valueOf_iff hi v d.val).mpr ⟨d, hd, hdv, rfl⟩
      rw [hv] at this; cases this
    exact ⟨List.nodup_cons.mpr ⟨hnot, hi.nodup⟩, congrArg _ hi.agree, Nat.le_succ_of_le hi.prop⟩

theorem filter_head_amap (amap : List (Nat × (Bool × Nat))) (d : Dec) (rest : List Dec)
    (hag : amap.map (fun e => (e.1, e.2.1)) = (d :: rest).map (fun d => (d.var, d.val)))
    (hnd : ((d :: rest).map (·.var)).Nodup) :
    (amap.filter (fun e => e.1 != d.var)).map (fun e => (e.1, e.2.1)) = rest.map (fun d => (d.var, d.val)) := by
  match amap, hag with
  | e :: es, hag =>
    obtain ⟨he, hes⟩ := List.cons.inj hag
    have hk : e.1 = d.var := (Prod.mk.inj he).1
    -- the head is the entry of `d`; no other entry has its key, the keys being the variables of `rest`
    rw [List.filter_cons_of_neg (by simp [hk]), List.filter_eq_self.mpr fun x hx => bne_iff_ne.mpr fun e => ?_]
    · exact hes
    · have hx : x.1 ∈ rest.map (·.var) := keys_of_agree hes ▸ List.mem_map_of_mem (f := (·.1)) hx
      exact (List.nodup_cons.mp hnd).1 (show d.var ∈ rest.map (·.var) from e ▸ hx)

theorem dtD_undoLast : Keeps dtD undoLast := by
  unfold undoLast
  refine keeps_get_bind fun s => ?_
  cases hst : s.stack with
  | nil => exact (keeps_panic _).on _
  | cons d rest =>
    refine keepsAt_set_bind (fun hi => ⟨?_, trivial⟩) (Keeps.on (by walk using keeps_emit dtD_scratch _) _)
    have hnd := hi.nodup
    have hag := hi.agree
    rw [hst] at hnd hag
    exact ⟨(List.nodup_cons.mp hnd).2, filter_head_amap s.amap d rest hag hnd, Nat.min_le_right _ _⟩

theorem dtD_nextUnpropagated : Keeps dtD nextUnpropagated := by
  unfold nextUnpropagated
  refine keeps_get_bind fun s => keepsAt_ite (fun hlt => ?_) fun _ => (keeps_pure _).on _
  split
  · exact keepsAt_set_bind (fun hi => ⟨⟨hi.nodup, hi.agree, hlt⟩, trivial⟩) ((keeps_pure _).on _)
  · exact (keeps_pure _).on _

theorem dtinv_empty {s : S} (h1 : s.stack = []) (h2 : s.amap = []) (h3 : s.propIdx = 0) : DTInv s :=
  ⟨by rw [h1]; exact List.Pairwise.nil, by rw [h1, h2]; rfl, by rw [h3]; exact Nat.zero_le _⟩

theorem dtD_provider : dtD.IgnoresProvider := fun _ _ _ _ _ _ _ => dtD_step rfl rfl rfl

theorem dtD_callbacks : CallbackPrims dtD :=
  callbackPrims_of_ignores dtD_scratch (hv := fun _ _ _ _ => dtD_step rfl rfl rfl) (hc := fun _ _ => dtD_step rfl rfl rfl)
    (hq := fun _ _ _ => dtD_step rfl rfl rfl) (ht := fun _ _ => dtD_step rfl rfl rfl) (hr := fun _ _ => dtD_step rfl rfl rfl)

theorem dtD_blind : dtD.Blind := id

theorem dtD_solver (U : Universe) (P : Problem) : SolverPrims dtD U P :=
  solverPrims_of_callbacks dtD_callbacks
    (hcl := fun _ _ => dtD_step rfl rfl rfl)
    (hpoll := keeps_pollCancel dtD_blind dtD_scratch dtD_provider)
    (htry := dtD_tryAdd) (hundo := dtD_undoLast) (hnext := dtD_nextUnpropagated)
    (hclear := fun _ _ => ⟨dtinv_empty rfl rfl rfl, trivial⟩)
    (henc := keeps_encode dtD_callbacks (hq := fun _ _ _ => dtD_step rfl rfl rfl)
      (hc := keeps_getCandidates dtD_blind dtD_scratch dtD_provider) (hd := keeps_getDeps dtD_blind dtD_scratch dtD_provider)
      (hpc := keeps_pollCands dtD_blind dtD_scratch dtD_provider) (hsd := keeps_startDeps dtD_blind dtD_scratch dtD_provider)
      (hfd := keeps_finishDeps dtD_provider) U P)

/-- **The decision tracker is consistent after every solve** (every universe, problem, fuel, solver state carried over,
    synchronous or asynchronous, whatever the outcome). -/
theorem solveRun_dtinv (U : Universe) (P : Problem) (fuel : Nat) (s : S) : DTInv (solveRun U P fuel s).2 :=
  solveRun_inv (keeps_solve_of_callbacks dtD_callbacks (dtD_solver U P) (fun _ _ => ⟨dtinv_empty rfl rfl rfl, trivial⟩) fuel)
    (dtinv_empty rfl rfl rfl)

end Resolvo.MDet
