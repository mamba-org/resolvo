import Resolvo.MDet.TruthSpec
import Resolvo.Abs.Fail
/-!
# The encoder is sound: no clause it adds excludes a real solution (exact model, literal level)

For every valid selection `sel` of the hard problem, the assignment it induces on the model's variables — root true, a
solvable's variable true iff the solvable is selected — satisfies every `requires`, `constrains`, `lock` and `excluded`
clause in the clause arena of the exact model of `Solver::solve`, **read the way the model's propagation reads it**
(`clauseLits`: a requires clause's positive literals come from the cache of candidate variables). Forbid clauses are the
at-most-one encoding, verified on its own (`Enc/AtMostOneProofs.lean`, C15); learnt clauses are derived, not encoded.
The proof uses the invariant `TInv` of `MDet/Truth.lean` (kinds state true facts; its literal part `XInv`: solvable variables are
unique; the cached variables of a requirement stand for exactly its candidates; every requires clause finds its requirement in the cache),
established for every run by `solveRun_tinv`.
-/
namespace Resolvo.MDet
open Resolvo Resolvo.Sat Resolvo.Abs

/-- the variable map of a model state as a state of the abstract system (no clauses) -/
def orgSt (s : S) : Abs.St := { origins := s.origins }

/-- the assignment a selection induces on the model's variables; on a state without clauses `mu` makes every helper
    variable false, which is why forbid clauses are not among the `encoded` kinds -/
def muS (s : S) (sel : List Nat) (v : Nat) : Bool := mu (orgSt s) sel v

/-- the clause kinds the encoder derives from the provider's data -/
def encoded : Kind → Bool
  | .requires .. => true
  | .constrains .. => true
  | .lock .. => true
  | .excluded .. => true
  | _ => false

theorem clause_sound {U : Universe} {P : Problem} {s : S} (hi : TInv U P s) (sel : List Nat) (hv : Valid U P.hard sel [])
    (c : MClause) (hc : c ∈ s.clauses.toList) (he : encoded c.kind = true) :
    evalClause (muS s sel) (clauseLits s c) = true := by
  -- the fact the kind states makes one literal true under `muS` (`mu_kind`); here only: which literal of `clauseLits` it is
  have hk := mu_kind (st := orgSt s) (sel := sel) hv (hi.kinds c hc)
  unfold clauseLits
  generalize hkind : c.kind = k at hk he ⊢
  cases k with
  | root | learnt | forbid => cases he
  | requires p r =>
    dsimp only
    cases hmp : muS s sel p with
    | false => exact evalClause_of_lit hmp List.mem_cons_self
    | true =>
      obtain ⟨cand, hcand, hcs⟩ := hk hmp
      obtain ⟨vsVars, hl⟩ := Option.isSome_iff_exists.mp (hi.extra.reqs c hc p r hkind)
      obtain ⟨v, hvm, hvs⟩ := (hi.extra.cache r vsVars hl).2 cand hcand
      refine evalClause_of_lit ((mu_solv (orgSt s) sel v cand hvs).trans (List.contains_iff_mem.mpr hcs))
        (List.mem_cons_of_mem _ (List.mem_map.mpr ⟨v, ?_, rfl⟩))
      rw [hl]; exact hvm
  | constrains p cv vs =>
    cases hmp : muS s sel p with
    | false => exact evalClause_of_lit hmp List.mem_cons_self
    | true => exact evalClause_of_lit (hk hmp) (by simp)
  | lock l o => exact evalClause_of_lit hk (by simp)
  | excluded v reason => exact evalClause_of_lit hk List.mem_cons_self

/-- **Encoder soundness for the exact model** (every universe meeting the provider contract, every problem, fuel and
    solver state carried over from earlier solves, synchronous or asynchronous, whatever the outcome): after a solve, every
    valid selection of the hard problem satisfies — under the assignment it induces — every requires, constrains, lock
    and exclusion clause in the model's clause arena, as the model's own propagation reads those clauses. No clause the
    encoder ever adds rules out a real solution. -/
theorem encoder_sound (U : Universe) (hU : WFU U) (P : Problem) (fuel : Nat) (s0 : S) (sel : List Nat)
    (hv : Valid U P.hard sel []) :
    ∀ c ∈ (solveRun U P fuel s0).2.clauses.toList, encoded c.kind = true →
      evalClause (muS (solveRun U P fuel s0).2 sel) (clauseLits (solveRun U P fuel s0).2 c) = true :=
  fun c hc he => clause_sound (solveRun_tinv U hU P fuel s0) sel hv c hc he

theorem muS_root {U : Universe} {P : Problem} {s : S} (hi : TInv U P s) (sel : List Nat) : muS s sel 0 = true := by
  unfold muS mu; rw [show (orgSt s).origins.lookup 0 = some .root from hi.root0]

/-- **Encoder soundness, the way a verdict uses it** (same quantification as `encoder_sound`): if no assignment that makes
    the root variable true satisfies all the requires, constrains, lock and exclusion clauses the model holds after a
    solve, the hard problem has no valid selection at all. -/
theorem no_solution_of_encoded_unsat (U : Universe) (hU : WFU U) (P : Problem) (fuel : Nat) (s0 : S)
    (hun : ∀ μ : Nat → Bool, μ 0 = true → ∃ c ∈ (solveRun U P fuel s0).2.clauses.toList,
      encoded c.kind = true ∧ evalClause μ (clauseLits (solveRun U P fuel s0).2 c) = false) :
    ¬ ∃ sel, Valid U P.hard sel [] := by
  intro ⟨sel, hv⟩
  have hi := solveRun_tinv U hU P fuel s0
  obtain ⟨c, hc, he, hf⟩ := hun (muS (solveRun U P fuel s0).2 sel) (muS_root hi sel)
  have := clause_sound hi sel hv c hc he
  rw [hf] at this; cases this

theorem filterMap_of_ordered (org : Org) (cs vs : List Nat) (hl : vs.length = cs.length)
    (h : ∀ p ∈ cs.zip vs, oSolv org p.2 = some p.1) : vs.filterMap (oSolv org) = cs := by
  induction cs generalizing vs with
  | nil =>
    cases vs with
    | nil => rfl
    | cons v vs => simp at hl
  | cons c cs ih =>
    cases vs with
    | nil => simp at hl
    | cons v vs =>
      have h0 := h (c, v) (by simp)
      simp only at h0
      simp only [List.filterMap_cons, h0]
      congr 1
      exact ih vs (by simpa using hl) (fun p hp => h p (by simp [hp]))

/-- **The candidates of a requires clause are in the provider's preference order** (exact model): the positive literals of
    every requires clause, read as the model's `decide` and propagation read them, stand — in clause order — for exactly the
    sorted candidates of the requirement's version sets, member after member (`reqSorted`: `sort_candidates` order with
    the favored candidate first). -/
theorem requires_clause_order {U : Universe} {P : Problem} {s : S} (hi : TInv U P s) (c : MClause)
    (hc : c ∈ s.clauses.toList) (p : Nat) (r : Req) (hk : c.kind = .requires p r) :
    ∃ vars : List Nat, clauseLits s c = (p, false) :: vars.map (fun v => (v, true)) ∧ vars.filterMap (oSolv s.origins) = reqSorted U r := by
  obtain ⟨vsVars, hl⟩ := Option.isSome_iff_exists.mp (hi.extra.reqs c hc p r hk)
  refine ⟨vsVars.flatten, ?_, ?_⟩
  · unfold clauseLits; rw [hk]; simp only [hl, Option.getD_some]
  · obtain ⟨h1, h2⟩ := hi.extra.order r vsVars hl
    exact filterMap_of_ordered s.origins (reqSorted U r) vsVars.flatten h1 h2

end Resolvo.MDet
