import Resolvo.MDet.Solve
import Resolvo.MDet.Logic
/-!
# A discipline carried through the functions of the model

For an arbitrary `Discipline`: if it is kept by the primitive operations a function of the model calls and by the
state updates the function makes itself, it is kept by the function. Each function is walked once, here; a file
about one invariant (`LogSpec`, `OnceSpec`, `GhostSpec`, `Tracker`, `TruthSpec`, `Causal`, `Frame`, `AsyncDeps`) only
says which primitives matter to it and why they keep it.

State updates are dealt with in two ways. Most write fields that no invariant of this development reads
(`S.obs` is what they do read): `D.IgnoresScratch` covers those. The others go through the primitives, which are
hypotheses, or are single-field hypotheses of the lemma at hand.
-/
namespace Resolvo.MDet
open Resolvo Resolvo.Sat Resolvo.Abs

/-- the fields of the solver state that invariants of this development read -/
structure Obs where
  nextVar : Nat
  solvVar : List (Nat × Nat)
  origins : List (Nat × Origin)
  clauses : Array MClause
  reqCands : List (Req × List (List Nat))
  trackers : List (Nat × Amo.Tracker)
  queue : List Task
  addedSolv : List SoR
  stack : List Dec
  amap : List (Nat × (Bool × Nat))
  propIdx : Nat
  fetchedCands : List Nat
  fetchedDeps : List Nat
  log : List String
  glog : List GEv
  issuedCands : List Nat
  issuedDeps : List Nat
  asyncMode : Bool

def S.obs (s : S) : Obs :=
  ⟨s.nextVar, s.solvVar, s.origins, s.clauses, s.reqCands, s.trackers, s.queue, s.addedSolv, s.stack, s.amap, s.propIdx,
   s.fetchedCands, s.fetchedDeps, s.log, s.glog, s.issuedCands, s.issuedDeps, s.asyncMode⟩

namespace Discipline
variable (D : Discipline)

/-- The discipline allows every update that leaves the observed fields alone. The observed fields (but `asyncMode`, which
    is never written) fall into groups that one primitive writes together: the variable map (`internSolvable`,
    `allocForbidVar`), the clause arena (`allocClause`, the watch update), the requirement cache and the trackers (the
    callbacks), the work list (`queueSolvable`, `queuePackage`, which also marks the solvable as added), the decision tracker
    (`tryAdd`, `undoLast`), the provider cache with its logs; a discipline that does not look at a group says so once. -/
@[reducible] def IgnoresScratch : Prop := ∀ {s s' : S}, s'.obs = s.obs → D.Step s s'
@[reducible] def IgnoresVars : Prop := ∀ (s : S) n sv o, D.Step s { s with nextVar := n, solvVar := sv, origins := o }
@[reducible] def IgnoresClauses : Prop := ∀ (s : S) c, D.Step s { s with clauses := c }
@[reducible] def IgnoresReqCands : Prop := ∀ (s : S) c, D.Step s { s with reqCands := c }
@[reducible] def IgnoresTrackers : Prop := ∀ (s : S) t, D.Step s { s with trackers := t }
@[reducible] def IgnoresQueue : Prop := ∀ (s : S) q a, D.Step s { s with queue := q, addedSolv := a }
@[reducible] def IgnoresDecisions : Prop := ∀ (s : S) st am p, D.Step s { s with stack := st, amap := am, propIdx := p }
@[reducible] def IgnoresProvider : Prop := ∀ (s : S) fc fd l g ic id,
  D.Step s { s with fetchedCands := fc, fetchedDeps := fd, log := l, glog := g, issuedCands := ic, issuedDeps := id }

end Discipline

variable {D : Discipline}

theorem ignoresScratch_within {F : S → Prop} (hF : ∀ s c s', D.Eff s c s' → F s → F s') (hs : D.IgnoresScratch) :
    (D.within F).IgnoresScratch := fun h => (hs h).within hF

/-- One step of a walk: a rule of the logic, a fact given with `using`, an update of scratch fields (if `hs` is given;
    some updates are conditional, `modify fun s => if … then { s with … } else s`, hence the `split` there), or a case
    split. `keeps_ite` is tried before `split`, which is far dearer on an `if` inside a large term. -/
syntax "walk_step" (ppSpace colGt term)? " using " term,* : tactic
macro "walk_rule" " using " ts:term,* : tactic => `(tactic| first
  | with_reducible apply keeps_bind
  | intro _
  | with_reducible exact keeps_pure _
  $[| with_reducible exact $ts]*
  | with_reducible exact keeps_get
  | with_reducible exact keeps_panic _)
macro "walk_split" : tactic => `(tactic| first
  | ((with_reducible apply keeps_forIn); intro _ _ _)
  | with_reducible apply keeps_ite
  | split
  | dsimp only)
macro_rules
  | `(tactic| walk_step $hs using $ts,*) => `(tactic| first
    | walk_rule using $ts,*
    | ((with_reducible apply keeps_modify); intro _; first | exact $hs rfl | (split <;> exact $hs rfl))
    | walk_split)
  | `(tactic| walk_step using $ts,*) => `(tactic| first | walk_rule using $ts,* | walk_split)

/-- `walk hs using f₁, f₂, …` shows `Keeps D x` for an unfolded function `x` of the model: `hs : D.IgnoresScratch`
    disposes of the updates of scratch fields (it is left out for a function that makes none), the `fᵢ` are the facts
    about the functions `x` calls. -/
syntax "walk" (ppSpace colGt term)? (" using " term,*)? : tactic
macro_rules
  | `(tactic| walk $hs using $ts,*) => `(tactic| repeat (walk_step $hs using $ts,*))
  | `(tactic| walk $hs:term) => `(tactic| repeat (walk_step $hs using))
  | `(tactic| walk using $ts,*) => `(tactic| repeat (walk_step using $ts,*))
  | `(tactic| walk) => `(tactic| repeat (walk_step using))

/-! ### the solver state (`MDet/State.lean`) -/

section state
variable (hs : D.IgnoresScratch)
include hs

theorem keeps_emit (e : Ev) : Keeps D (emit e) := keeps_modify fun _ => hs rfl
theorem keeps_setWatchList (l : Lit) (cs : List Nat) : Keeps D (setWatchList l cs) := keeps_modify fun _ => hs rfl
theorem keeps_requestStarted : Keeps D requestStarted := keeps_modify fun _ => hs rfl

theorem keeps_startWatching (id : Nat) : Keeps D (startWatching id) := by
  unfold startWatching
  walk using keeps_setWatchList hs _ _

theorem keeps_internSolvable (hv : D.IgnoresVars) (sv : Nat) : Keeps D (internSolvable sv) := by
  unfold internSolvable
  refine keeps_get_bind fun s => ?_
  split
  · exact (keeps_pure _).on _
  · exact keepsAt_set_bind (hv s _ _ _) ((keeps_bind (keeps_emit hs _) fun _ => keeps_pure _).on _)

theorem keeps_allocForbidVar (hv : D.IgnoresVars) (name : Nat) : Keeps D (allocForbidVar name) := by
  unfold allocForbidVar
  exact keeps_get_bind fun s => keepsAt_set_bind (hv s _ _ _) ((keeps_bind (keeps_emit hs _) fun _ => keeps_pure _).on _)

theorem keeps_allocClause (hc : D.IgnoresClauses) (k : Kind) (w : Option (Lit × Lit)) : Keeps D (allocClause k w) := by
  unfold allocClause
  walk using keeps_emit hs _, keeps_modify fun s => hc s _

theorem keeps_tryAdd (hd : D.IgnoresDecisions) (v : Nat) (val : Bool) (reason level : Nat) :
    Keeps D (tryAdd v val reason level) := by
  unfold tryAdd
  walk using keeps_emit hs _, keeps_modify fun s => hd s _ _ _

theorem keeps_undoLast (hd : D.IgnoresDecisions) : Keeps D undoLast := by
  unfold undoLast
  refine keeps_get_bind fun s => ?_
  split
  · exact (keeps_panic _).on _
  · refine keepsAt_set_bind (hd s _ _ _) (Keeps.on ?_ _)
    walk using keeps_emit hs _

omit hs in
theorem keeps_nextUnpropagated (hd : D.IgnoresDecisions) : Keeps D nextUnpropagated := by
  unfold nextUnpropagated
  refine keeps_get_bind fun s => ?_
  dsimp only
  repeat' split
  · exact keepsAt_set_bind (hd s _ _ _) ((keeps_pure _).on _)
  all_goals exact (keeps_pure _).on _

end state

/-! #### the provider cache: what its functions return, and that a discipline keeps them which looks neither at the cache
nor at how a run ended -/

/-- `get_dependencies` returns the provider's answer, and the answer is in the cache afterwards -/
theorem getDeps_post {U : Universe} {sv : Nat} {s : S} :
    PostAt (getDeps U sv) s fun d s' => d = U.deps sv ∧ sv ∈ s'.fetchedDeps := by
  unfold getDeps
  refine .run rfl (.ite (fun _ => .bind pollCancel_post fun _ _ e => ?_)
    fun hc => .pure ⟨rfl, List.contains_iff_mem.mp (by simpa using hc)⟩)
  subst e
  exact .run rfl (.run rfl (.pure ⟨rfl, List.mem_cons_self⟩))

theorem getCandidates_post {U : Universe} {n : Nat} {s : S} :
    PostAt (getCandidates U n) s fun p _ => p = (U.pkg? n).getD { cands := [] } := by
  unfold getCandidates
  exact .run rfl (.ite (fun _ => .seq fun _ _ => .seq fun _ _ => .seq fun _ _ => .pure rfl) fun _ => .pure rfl)

theorem getSortedVs_post {U : Universe} {vs : Nat} {s : S} : PostAt (getSortedVs U vs) s fun l _ => l = sortedCands U vs := by
  unfold getSortedVs
  exact .run rfl (.ite (fun _ => .seq fun _ _ => .seq fun _ _ => .pure rfl) fun _ => .pure rfl)

theorem getNonMatching_post {U : Universe} {vs : Nat} {s : S} : PostAt (getNonMatching U vs) s fun l _ => l = U.nonMatching vs := by
  unfold getNonMatching
  exact .seq fun _ _ => .pure rfl

section provider
variable (hb : D.Blind) (hs : D.IgnoresScratch) (hp : D.IgnoresProvider)
include hb hs hp

theorem keeps_pollCancel : Keeps D pollCancel :=
  ⟨fun s => keepsAt_of_step hb (by rw [runM_pollCancel]; split <;> exact (hp s _ _ _ _ _ _).trans (hs rfl))⟩

omit hb hs in
theorem keeps_logCall (w : String) (g : GEv) : Keeps D (logCall w g) := keeps_modify fun s => hp s _ _ _ _ _ _

theorem keeps_getCandidates (U : Universe) (n : Nat) : Keeps D (getCandidates U n) := by
  unfold getCandidates
  walk using keeps_pollCancel hb hs hp, keeps_requestStarted hs, keeps_modify fun s => (hp s _ _ _ _ _ _).trans (hs rfl)

theorem keeps_getDeps (U : Universe) (sv : Nat) : Keeps D (getDeps U sv) := by
  unfold getDeps
  walk using keeps_pollCancel hb hs hp, keeps_requestStarted hs, keeps_modify fun s => hp s _ _ _ _ _ _

theorem keeps_startDeps (sv : Nat) : Keeps D (startDeps sv) := by
  unfold startDeps
  walk using keeps_pollCancel hb hs hp, keeps_requestStarted hs, keeps_logCall hp _ _, keeps_modify fun s => hp s _ _ _ _ _ _

omit hb hs in
theorem keeps_finishDeps (sv : Nat) : Keeps D (finishDeps sv) := keeps_modify fun s => hp s _ _ _ _ _ _

omit hb in
theorem keeps_finishCands (U : Universe) (n : Nat) : Keeps D (finishCands U n) :=
  keeps_modify fun s => (hp s _ _ _ _ _ _).trans (hs rfl)

theorem keeps_pollCands (U : Universe) (tid n : Nat) (w : CandWait) (a : AS) : Keeps D (pollCands U tid n w a) := by
  unfold pollCands
  walk using keeps_pollCancel hb hs hp, keeps_requestStarted hs, keeps_logCall hp _ _, keeps_finishCands hs hp _ _,
    keeps_modify fun s => hp s _ _ _ _ _ _

end provider

/-! ### the encoder's callbacks (`MDet/Encode.lean`) -/

/-- `D` is kept by the allocation of variables and clauses and by the updates the callbacks of the encoder make to the
    at-most-one trackers and the requirement cache -/
structure ClausePrims (D : Discipline) : Prop where
  scratch : D.IgnoresScratch
  internSolvable : ∀ sv, Keeps D (internSolvable sv)
  allocForbidVar : ∀ n, Keeps D (allocForbidVar n)
  allocClause : ∀ k w, Keeps D (allocClause k w)
  trackers : D.IgnoresTrackers
  reqCands : D.IgnoresReqCands

/-- … and by what the callbacks put on the work list -/
structure CallbackPrims (D : Discipline) : Prop extends ClausePrims D where
  queueSolvable : ∀ sid, Keeps D (queueSolvable sid)
  queuePackage : ∀ n, Keeps D (queuePackage n)
  pushReq : ∀ sid r, Keeps D (pushTask (.req sid r))
  pushCons : ∀ sid vs, Keeps D (pushTask (.cons sid vs))

theorem keeps_internSoR (h : ∀ sv, Keeps D (internSolvable sv)) (sid : SoR) : Keeps D (internSoR sid) := by
  cases sid with
  | none => exact keeps_pure _
  | some sv => exact h sv

section queue
variable (hs : D.IgnoresScratch) (hq : D.IgnoresQueue)
include hs hq

theorem keeps_queueSolvable (sid : SoR) : Keeps D (queueSolvable sid) := by
  unfold queueSolvable
  refine keeps_get_bind fun s => ?_
  split
  · exact (keeps_pure _).on _
  · exact keepsAt_set_bind (hq s _ _) ((keeps_emit hs _).on _)

theorem keeps_queuePackage (n : Nat) : Keeps D (queuePackage n) := by
  unfold queuePackage
  refine keeps_get_bind fun s => ?_
  split
  · exact (keeps_pure _).on _
  · exact keepsAt_set_bind ((hq s _ _).trans (hs rfl)) ((keeps_emit hs _).on _)

omit hs in
theorem keeps_pushTask (t : Task) : Keeps D (pushTask t) := keeps_modify fun s => hq s _ _

end queue

/-- the callbacks of a discipline that looks at nothing they write -/
theorem callbackPrims_of_ignores (hs : D.IgnoresScratch) (hv : D.IgnoresVars) (hc : D.IgnoresClauses) (hq : D.IgnoresQueue)
    (ht : D.IgnoresTrackers) (hr : D.IgnoresReqCands) : CallbackPrims D :=
  ⟨⟨hs, keeps_internSolvable hs hv, keeps_allocForbidVar hs hv, keeps_allocClause hs hc, ht, hr⟩, keeps_queueSolvable hs hq,
   keeps_queuePackage hs hq, fun _ _ => keeps_pushTask hq _, fun _ _ => keeps_pushTask hq _⟩

section callbacks
variable (O : ClausePrims D)
include O

theorem keeps_addExclusionClause (sid : SoR) (reason : Nat) : Keeps D (addExclusionClause sid reason) := by
  unfold addExclusionClause
  walk O.scratch using keeps_internSoR O.internSolvable _, O.allocClause _ _, keeps_emit O.scratch _

theorem keeps_addForbidMultiple (U : Universe) (c v : Nat) : Keeps D (addForbidMultiple U c v) := by
  unfold addForbidMultiple
  walk using O.allocForbidVar _, O.allocClause _ _, keeps_startWatching O.scratch _,
    keeps_modify fun s => O.trackers s _

theorem keeps_onDependencies (hp : ∀ n, Keeps D (queuePackage n)) (hr : ∀ sid r, Keeps D (pushTask (.req sid r)))
    (hc : ∀ sid vs, Keeps D (pushTask (.cons sid vs))) (U : Universe) (P : Problem) (sid : SoR) (d : Deps) :
    Keeps D (onDependencies U P sid d) := by
  unfold onDependencies
  walk using keeps_addExclusionClause O _ _, hp _, hr _ _, hc _ _

theorem keeps_onCandidates (name : Nat) (p : Pkg) : Keeps D (onCandidates name p) := by
  unfold onCandidates
  walk O.scratch using keeps_addExclusionClause O _ _, O.internSolvable _, O.allocClause _ _, keeps_startWatching O.scratch _

theorem keeps_onRequirementCandidates (hq : ∀ sid, Keeps D (queueSolvable sid)) (U : Universe) (sid : SoR) (r : Req)
    (cs : List (List Nat)) : Keeps D (onRequirementCandidates U sid r cs) := by
  unfold onRequirementCandidates
  walk O.scratch using keeps_internSoR O.internSolvable _, O.internSolvable _, hq _,
    keeps_addForbidMultiple O _ _ _, O.allocClause _ _, keeps_emit O.scratch _, keeps_startWatching O.scratch _,
    keeps_modify fun s => .ite .rfl (O.reqCands s _)

theorem keeps_onConstraintCandidates (sid : SoR) (vs : Nat) (cs : List Nat) : Keeps D (onConstraintCandidates sid vs cs) := by
  unfold onConstraintCandidates
  walk O.scratch using keeps_internSoR O.internSolvable _, O.internSolvable _, O.allocClause _ _, keeps_emit O.scratch _,
    keeps_startWatching O.scratch _

end callbacks

theorem keeps_runCallback (O : CallbackPrims D) (U : Universe) (P : Problem) (r : TaskResult) : Keeps D (runCallback U P r) := by
  cases r with
  | deps sid d => exact keeps_onDependencies O.toClausePrims O.queuePackage O.pushReq O.pushCons U P sid d
  | cands n p => exact keeps_onCandidates O.toClausePrims n p
  | req sid r lists => exact keeps_onRequirementCandidates O.toClausePrims O.queueSolvable U sid r lists
  | cons sid vs l => exact keeps_onConstraintCandidates O.toClausePrims sid vs l

/-! ### the encoder: one task, one poll of a future (the loops around them: `MDet/TaskWalk.lean`) -/

theorem keeps_getMatching (U : Universe) (vs : Nat) (hc : Keeps D (getCandidates U (U.vsName vs))) : Keeps D (getMatching U vs) := by
  unfold getMatching
  exact keeps_bind hc fun _ => keeps_pure _

theorem keeps_getNonMatching (U : Universe) (vs : Nat) (hc : Keeps D (getCandidates U (U.vsName vs))) :
    Keeps D (getNonMatching U vs) := by
  unfold getNonMatching
  exact keeps_bind hc fun _ => keeps_pure _

theorem keeps_getSortedVs (hs : D.IgnoresScratch) (U : Universe) (vs : Nat) (hc : Keeps D (getCandidates U (U.vsName vs))) :
    Keeps D (getSortedVs U vs) := by
  unfold getSortedVs
  walk hs using keeps_getMatching _ _ hc

theorem keeps_runTask (O : CallbackPrims D) (hc : ∀ U n, Keeps D (getCandidates U n)) (hd : ∀ U sv, Keeps D (getDeps U sv))
    (U : Universe) (P : Problem) (t : Task) : Keeps D (runTask U P t) := by
  cases t with
  | deps sid => cases sid <;> (unfold runTask; walk O.scratch using keeps_onDependencies O.toClausePrims O.queuePackage O.pushReq O.pushCons _ _ _ _, hd _ _)
  | pkg n => unfold runTask; walk O.scratch using keeps_onCandidates O.toClausePrims _ _, hc _ _
  | req sid r =>
    unfold runTask
    walk using keeps_onRequirementCandidates O.toClausePrims O.queueSolvable _ _ _ _, keeps_getSortedVs O.scratch _ _ (hc _ _)
  | cons sid vs =>
    unfold runTask
    walk using keeps_onConstraintCandidates O.toClausePrims _ _ _, keeps_getNonMatching _ _ (hc _ _)

section async
variable (hs : D.IgnoresScratch)
include hs

theorem keeps_finishChild (sorted : Bool) (c : Child) (a : AS) : Keeps D (finishChild sorted c a) := by
  unfold finishChild
  walk hs

theorem keeps_sortStage (U : Universe) (tid : Nat) (g : Bool) (c : Child) (a : AS) (e : Bool) :
    Keeps D (sortStage U tid g c a e) := by
  unfold sortStage
  walk using keeps_finishChild hs _ _ _

theorem keeps_filterStage (U : Universe) (tid : Nat) (g sorted : Bool) (c : Child) (a : AS) (e : Bool) :
    Keeps D (filterStage U tid g sorted c a e) := by
  unfold filterStage
  walk hs using keeps_finishChild hs _ _ _, keeps_sortStage hs _ _ _ _ _ _

theorem keeps_executorTurn (a : AS) : Keeps D (executorTurn a) := by
  unfold executorTurn
  dsimp only
  refine keeps_bind (keeps_modify fun _ => hs rfl) fun _ => keeps_get_bind fun s => ?_
  split
  · exact (keeps_panic _).on _
  · split
    · exact keepsAt_set_bind (hs rfl) ((keeps_pure _).on _)
    · split
      · exact keepsAt_set_bind (hs rfl) ((keeps_pure _).on _)
      · exact (keeps_panic _).on _

theorem keeps_pollChild (U : Universe) (tid : Nat) (sorted : Bool) (c : Child) (a : AS)
    (hc : ∀ w a, Keeps D (pollCands U tid (U.vsName c.vs) w a)) : Keeps D (pollChild U tid sorted c a) := by
  unfold pollChild
  walk using hc _ _, keeps_sortStage hs _ _ _ _ _ _, keeps_filterStage hs _ _ _ _ _ _ _

theorem keeps_pollChildren (U : Universe) (tid : Nat) (sorted : Bool) (cs : List Child) (a : AS)
    (hc : ∀ c ∈ cs, ∀ w a, Keeps D (pollCands U tid (U.vsName c.vs) w a)) : Keeps D (pollChildren U tid sorted cs a) := by
  induction cs generalizing a with
  | nil => exact keeps_pure _
  | cons c cs ih =>
    unfold pollChildren
    walk using keeps_pollChild hs _ _ _ _ _ (hc c List.mem_cons_self), ih _ fun c h => hc c (List.mem_cons_of_mem _ h)

theorem keeps_pollTask (hc : ∀ U tid n w a, Keeps D (pollCands U tid n w a)) (hsd : ∀ sv, Keeps D (startDeps sv))
    (hfd : ∀ sv, Keeps D (finishDeps sv)) (U : Universe) (P : Problem) (t : ATask) (a : AS) : Keeps D (pollTask U P t a) := by
  unfold pollTask
  walk using hc _ _ _ _ _, hsd _, hfd _, keeps_pollChildren hs _ _ _ _ _ fun _ _ _ _ => hc _ _ _ _ _

end async

/-! ### propagation, decisions, conflict analysis, the solver loop (`MDet/Solve.lean`) -/

/-- the state `Solver::solve` starts from: the per-solve state is reset, the cache and the plan are kept -/
@[reducible] def solveReset (s : S) : S := { (default : S) with
    fetchedCands := s.fetchedCands, fetchedDeps := s.fetchedDeps, hinted := s.hinted, cachedSorted := s.cachedSorted,
    log := s.log, glog := s.glog, polls := s.polls, cancelAt := s.cancelAt, cancelAtCall := s.cancelAtCall, cancelTransient := s.cancelTransient,
    callsStarted := s.callsStarted, raised := s.raised,
    activityAdd := s.activityAdd, activityDecay := s.activityDecay, trace := s.trace,
    asyncMode := s.asyncMode, sched := s.sched, aevents := s.aevents,
    gateFs := s.gateFs, cachedMatching := s.cachedMatching, cachedInverse := s.cachedInverse }

/-- `D` is kept by what the solver loop calls and by the updates it makes to the clause arena -/
structure SolverPrims (D : Discipline) (U : Universe) (P : Problem) : Prop where
  scratch : D.IgnoresScratch
  pollCancel : Keeps D pollCancel
  internSolvable : ∀ sv, Keeps D (internSolvable sv)
  tryAdd : ∀ v b r l, Keeps D (tryAdd v b r l)
  undoLast : Keeps D undoLast
  clear : ∀ s : S, D.Step s { s with stack := [], amap := [], propIdx := 0 }
  nextUnpropagated : Keeps D nextUnpropagated
  allocLearnt : ∀ i w, Keeps D (allocClause (.learnt i) w)
  /-- `cursor.update`: a clause is stored back with other watches -/
  rewatch : ∀ (s : S) cid c w, s.clauses[cid]? = some c → D.Step s { s with clauses := s.clauses.set! cid { c with watch := w } }
  encode : ∀ sv fuel, Keeps D (encode U P sv fuel)

/-- the solver loop of a discipline that looks neither at the clause arena nor at what the encoder's callbacks write -/
theorem solverPrims_of_callbacks (O : CallbackPrims D) (hcl : D.IgnoresClauses) (hpoll : Keeps D pollCancel)
    (htry : ∀ v b r l, Keeps D (tryAdd v b r l)) (hundo : Keeps D undoLast)
    (hclear : ∀ s : S, D.Step s { s with stack := [], amap := [], propIdx := 0 }) (hnext : Keeps D nextUnpropagated)
    {U : Universe} {P : Problem} (henc : ∀ sv fuel, Keeps D (encode U P sv fuel)) : SolverPrims D U P :=
  ⟨O.scratch, hpoll, O.internSolvable, htry, hundo, hclear, hnext, fun _ _ => O.allocClause _ _, fun s _ _ _ _ => hcl s _, henc⟩

section solver
variable {U : Universe} {P : Problem} (O : SolverPrims D U P)
include O

theorem keeps_decideAssertions (level : Nat) : Keeps D (decideAssertions level) := by
  unfold decideAssertions
  walk using O.tryAdd _ _ _ _

theorem keeps_decideLearned (level : Nat) : Keeps D (decideLearned level) := by
  unfold decideLearned
  walk using O.tryAdd _ _ _ _

theorem keeps_propagate_inner (level : Nat) (fl : Lit) (l : List Nat) : Keeps D (propagate.outer.inner level fl l) := by
  induction l with
  | nil => exact keeps_pure _
  | cons cid rest ih =>
    unfold propagate.outer.inner setWatchList
    refine keeps_get_bind fun s => ?_
    split
    · next c hc =>
      split
      · next w _ =>
        dsimp only
        -- the two `if`s that only compute the watch index are named, so that `split` meets the control flow alone
        generalize (if (w.fst == fl) = true then (0 : Nat) else 1) = idx
        generalize (if (idx == 0) = true then w.snd else w.fst) = other
        split
        · exact ih.on s
        · split
          · -- the clause read from `s` is still at `cid` when it is stored back: only the watch lists changed in between
            refine keepsAt_get_bind (keepsAt_modify_bind (O.scratch rfl)
              (keepsAt_modify_bind (O.rewatch _ cid c _ hc) (Keeps.on ?_ _)))
            walk O.scratch using ih
          · exact Keeps.on (by walk using ih, O.tryAdd _ _ _ _) s
      · exact (keeps_panic _).on s
    · exact (keeps_panic _).on s

theorem keeps_propagate (level fuel : Nat) : Keeps D (propagate level fuel) := by
  have outer : ∀ n, Keeps D (propagate.outer level n) := by
    intro n
    induction n with
    | zero => exact keeps_outOfFuel
    | succ n ih =>
      unfold propagate.outer
      walk using ih, O.nextUnpropagated, keeps_propagate_inner O _ _ _
  unfold propagate
  walk using O.pollCancel, keeps_decideAssertions O _, keeps_decideLearned O _, outer _

omit O in
/-- `decide` only reads the state -/
theorem keeps_decide : Keeps D (decide U) := by
  unfold decide
  walk

theorem keeps_analyzeUnsolvable (cid : Nat) : Keeps D (analyzeUnsolvable cid) := by
  unfold analyzeUnsolvable
  walk using keeps_emit O.scratch _

theorem keeps_undoUntil (level : Nat) : Keeps D (undoUntil level) := by
  have loop : ∀ n, Keeps D (undoUntil.loop level n) := by
    intro n
    induction n with
    | zero => exact keeps_pure _
    | succ n ih => unfold undoUntil.loop; walk O.scratch using O.undoLast, ih
  unfold undoUntil
  walk using keeps_emit O.scratch _, keeps_modify O.clear, loop _

theorem keeps_analyze (level conflVar clauseId fuel : Nat) : Keeps D (analyze U level conflVar clauseId fuel) := by
  have pop : ∀ seen f, Keeps D (analyze.outer.pop seen f) := by
    intro seen f
    induction f with
    | zero => exact keeps_outOfFuel
    | succ n ih => unfold analyze.outer.pop; walk O.scratch using ih, O.undoLast
  have outer : ∀ n curLevel conflVar clauseId seen causes learnt backTo why first,
      Keeps D (analyze.outer n curLevel conflVar clauseId seen causes learnt backTo why first) := by
    intro n
    induction n with
    | zero => exact fun _ _ _ _ _ _ _ _ _ => keeps_outOfFuel
    | succ n ih =>
      intros
      unfold analyze.outer
      walk using ih _ _ _ _ _ _ _ _ _, pop _ _
  unfold analyze
  walk O.scratch using outer _ _ _ _ _ _ _ _ _ _, keeps_emit O.scratch _, O.allocLearnt _ _, keeps_startWatching O.scratch _,
    keeps_undoUntil O _

theorem keeps_propagateAndLearn (level fuel : Nat) : Keeps D (propagateAndLearn U level fuel) := by
  have loop : ∀ f level, Keeps D (propagateAndLearn.loop U fuel f level) := by
    intro f
    induction f with
    | zero => exact fun _ => keeps_outOfFuel
    | succ n ih =>
      intro level
      unfold propagateAndLearn.loop
      walk using ih _, keeps_propagate O _ _, keeps_analyzeUnsolvable O _, keeps_analyze O _ _ _ _, O.tryAdd _ _ _ _
  unfold propagateAndLearn
  exact loop _ _

theorem keeps_resolveDependencies (level fuel : Nat) : Keeps D (resolveDependencies U level fuel) := by
  have loop : ∀ f level, Keeps D (resolveDependencies.loop U fuel f level) := by
    intro f
    induction f with
    | zero => exact fun _ => keeps_outOfFuel
    | succ n ih =>
      intro level
      unfold resolveDependencies.loop
      walk using ih _, keeps_decide, O.tryAdd _ _ _ _, keeps_propagateAndLearn O _ _
  unfold resolveDependencies
  exact loop _ _

theorem keeps_processUnsolvable (root : SoR) (startLevel cid : Nat) : Keeps D (processUnsolvable root startLevel cid) := by
  unfold processUnsolvable
  walk using keeps_analyzeUnsolvable O _, keeps_emit O.scratch _, keeps_undoUntil O _,
    keeps_internSoR O.internSolvable _, O.tryAdd _ _ _ _

theorem keeps_runSat (root : SoR) (fuel : Nat) : Keeps D (runSat U P root fuel) := by
  have loop : ∀ startLevel f level, Keeps D (runSat.loop U P root fuel startLevel f level) := by
    intro startLevel f
    induction f with
    | zero => exact fun _ => keeps_outOfFuel
    | succ n ih =>
      intro level
      unfold runSat.loop
      walk using ih _, keeps_internSoR O.internSolvable _, O.tryAdd _ _ _ _, O.encode _ _,
        keeps_processUnsolvable O _ _ _, keeps_propagate O _ _, keeps_undoUntil O _, keeps_resolveDependencies O _ _
  unfold runSat
  walk O.scratch using keeps_emit O.scratch _, loop _ _ _

/-- `Solver::solve`: besides the solver loop, the reset of the per-solve state, the root clause and the at-most-one
    registration of the soft requirements -/
theorem keeps_solve (hreset : ∀ s, D.Step s (solveReset s)) (hroot : Keeps D (allocClause .root none))
    (hforbid : ∀ c v, Keeps D (addForbidMultiple U c v)) (fuel : Nat) : Keeps D (solve U P fuel) := by
  unfold solve
  walk using keeps_modify hreset, hroot, keeps_runSat O _ _, O.internSolvable _, hforbid _ _

omit O in
theorem solveRun_snd (fuel : Nat) (s : S) : (solveRun U P fuel s).2 = (runM (solve U P fuel) s).2 := by
  have hrun : (solve U P fuel).run.run s = runM (solve U P fuel) s := rfl
  unfold solveRun
  rw [hrun]
  cases runM (solve U P fuel) s with
  | mk r s' =>
    cases r with
    | ok o => cases o <;> rfl
    | error e => rfl

omit O in
/-- `solve` begins by resetting the state, so it may as well be run from the reset state -/
theorem runM_solve_reset (fuel : Nat) (s : S) : runM (solve U P fuel) (solveReset s) = runM (solve U P fuel) s := by
  unfold solve
  rw [runM_bind, runM_bind]
  rfl

omit O in
theorem solveRun_inv {fuel : Nat} (h : Keeps D (solve U P fuel)) {s : S} (hi : D.Inv (solveReset s)) :
    D.Inv (solveRun U P fuel s).2 := by
  rw [solveRun_snd, ← runM_solve_reset]
  exact (keepsAt_def.mp (h.on _) hi).1

end solver

/-- `solve` for a discipline that looks neither at the clause arena nor at what the encoder's callbacks write -/
theorem keeps_solve_of_callbacks (Oc : CallbackPrims D) {U : Universe} {P : Problem} (O : SolverPrims D U P)
    (hreset : ∀ s, D.Step s (solveReset s)) (fuel : Nat) : Keeps D (solve U P fuel) :=
  keeps_solve O hreset (Oc.allocClause _ _) (keeps_addForbidMultiple Oc.toClausePrims U) fuel

/-! ### a discipline that looks at the provider cache, the call logs and the mode only

These fields survive `solve`'s reset and are written by provider requests only, so such a discipline is kept by `solve` as
soon as it is kept by the poll and by the encoder. -/

section provider
variable (h : ∀ {s s' : S}, s'.fetchedCands = s.fetchedCands → s'.fetchedDeps = s.fetchedDeps → s'.log = s.log → s'.glog = s.glog →
  s'.asyncMode = s.asyncMode → D.Step s s')
include h

theorem callbackPrims_of_provider : CallbackPrims D :=
  callbackPrims_of_ignores (fun e => h (congrArg Obs.fetchedCands e) (congrArg Obs.fetchedDeps e) (congrArg Obs.log e)
      (congrArg Obs.glog e) (congrArg Obs.asyncMode e))
    (fun _ _ _ _ => h rfl rfl rfl rfl rfl) (fun _ _ => h rfl rfl rfl rfl rfl) (fun _ _ _ => h rfl rfl rfl rfl rfl)
    (fun _ _ => h rfl rfl rfl rfl rfl) (fun _ _ => h rfl rfl rfl rfl rfl)

theorem solverPrims_of_provider (hpoll : Keeps D pollCancel) {U : Universe} {P : Problem}
    (henc : ∀ sv fuel, Keeps D (encode U P sv fuel)) : SolverPrims D U P :=
  have O := callbackPrims_of_provider h
  have hd : D.IgnoresDecisions := fun _ _ _ _ => h rfl rfl rfl rfl rfl
  solverPrims_of_callbacks O (fun _ _ => h rfl rfl rfl rfl rfl) hpoll (keeps_tryAdd O.scratch hd) (keeps_undoLast O.scratch hd)
    (fun _ => h rfl rfl rfl rfl rfl) (keeps_nextUnpropagated hd) henc

theorem keeps_solve_of_provider (hpoll : Keeps D pollCancel) {U : Universe} {P : Problem}
    (henc : ∀ sv fuel, Keeps D (encode U P sv fuel)) (fuel : Nat) : Keeps D (solve U P fuel) :=
  keeps_solve_of_callbacks (callbackPrims_of_provider h) (solverPrims_of_provider h hpoll henc) (fun _ => h rfl rfl rfl rfl rfl) fuel

end provider

theorem history_inv {I : S → Prop} {U : Universe} {fuel : Nat} (h : ∀ P s, I s → I (solveRun U P fuel s).2) (ps : List Problem)
    {s : S} (hs : I s) : I (ps.foldl (fun st p => (solveRun U p fuel st).2) s) :=
  List.foldlRecOn ps _ hs fun st hst p _ => h p st hst

end Resolvo.MDet
