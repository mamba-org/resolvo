import Resolvo.MDet.Walk
import Resolvo.Abs.Clause
import Resolvo.CacheProofs
import Resolvo.Enc.AtMostOneProofs
import Resolvo.Basics
/-!
# The encoder only states true facts (refinement obligation R3, kinds of clauses)

`KindTrue U P org k`: the clause kind `k` — over the variables whose origins are `org` — states a true fact of the
universe: a `requires p r` belongs to `p`'s requirements, a `constrains p c vs` to its constrains and `c` is a candidate
that does not match, a `lock` / `excluded` clause reflects the package's lock / exclusion list or Unknown dependencies,
a `forbid` clause is about a solvable of the named package. (The candidates of a requirement are not part of the kind:
`Conflict::graph` recomputes them from the provider.)

`TInv`: the variable map is consistent, every clause in the arena has a true kind, the variables an at-most-one tracker
holds stand for solvables of its package, every queued task asks about something true, and (`XInv`, the part about
literals that `MDet/EncSound.lean` uses) the cached candidate variables of a requirement stand for its candidates. `Tr pre x post` is a Hoare triple
over the model's monad that maintains `TInv`, only extends the variable origins (`Ext`), and establishes `post` for
normal results. Here: the invariant and what the primitives that write the variable map, the clause arena and the cache
of requirement candidates need in order to keep it; `MDet/TruthSpec.lean` carries it through the model.
-/
namespace Resolvo.MDet
open Resolvo Resolvo.Sat Resolvo.Abs

/-- provider contract used by the lock / exclusion clauses: listed candidates carry the package's name, the locked and
    the excluded solvables are candidates -/
structure WFU (U : Universe) : Prop where
  names : ∀ n p, U.pkg? n = some p → ∀ c ∈ p.cands, U.nameOf c = n
  excl : ∀ n p, U.pkg? n = some p → ∀ e ∈ p.excluded, e.1 ∈ p.cands
  lock : ∀ n p l, U.pkg? n = some p → p.locked = some l → l ∈ p.cands

/-- the variable origins and the cache of requirement candidates only grow -/
structure Ext (s s' : S) : Prop where
  org : ∀ v o, s.origins.lookup v = some o → s'.origins.lookup v = some o
  rc : ∀ r x, s.reqCands.lookup r = some x → s'.reqCands.lookup r = some x

theorem Ext.refl (s : S) : Ext s s := ⟨fun _ _ h => h, fun _ _ h => h⟩
theorem Ext.trans {a b c : S} (h1 : Ext a b) (h2 : Ext b c) : Ext a c :=
  ⟨fun v o h => h2.org v o (h1.org v o h), fun r x h => h2.rc r x (h1.rc r x h)⟩
theorem Ext.of_eq {s s' : S} (h1 : s'.origins = s.origins) (h2 : s'.reqCands = s.reqCands) : Ext s s' :=
  ⟨by intro v o hv; rw [h1]; exact hv, by intro r x hr; rw [h2]; exact hr⟩

/-- what a task's solvable-or-root depends on, according to the provider -/
def sidDeps (U : Universe) (P : Problem) : SoR → Option (List Req × List Nat)
  | none => some (P.reqs, P.constraints)
  | some x => match U.deps x with | .known r c => some (r, c) | .unknown _ => none

/-- the answer the provider gives for the dependencies of a solvable-or-root -/
def depsAnswer (U : Universe) (P : Problem) : SoR → Deps
  | none => .known P.reqs P.constraints
  | some x => U.deps x

theorem sidDeps_of_answer {U : Universe} {P : Problem} {sid : SoR} {reqs : List Req} {cons : List Nat}
    (h : Deps.known reqs cons = depsAnswer U P sid) : sidDeps U P sid = some (reqs, cons) := by
  cases sid with
  | none => cases h; rfl
  | some x => simp only [depsAnswer] at h; simp [sidDeps, ← h]

/-- a queued task asks about something true: the requirement / constraint belongs to the solvable's dependencies -/
def TaskLegit (U : Universe) (P : Problem) : Task → Prop
  | .deps _ => True
  | .pkg _ => True
  | .req sid r => ∃ reqs cons, sidDeps U P sid = some (reqs, cons) ∧ r ∈ reqs
  | .cons sid vs => ∃ reqs cons, sidDeps U P sid = some (reqs, cons) ∧ vs ∈ cons

/-- the variables `vs` stand for the solvables `cs`, position by position -/
def PairOK (cs vs : List Nat) (s : S) : Prop := vs.length = cs.length ∧ ∀ p ∈ cs.zip vs, oSolv s.origins p.2 = some p.1

theorem pairOK_ext {cs vs : List Nat} {s s' : S} (e : Ext s s') (h : PairOK cs vs s) : PairOK cs vs s' :=
  ⟨h.1, fun p hp => oSolv_mono e.org p.2 p.1 (h.2 p hp)⟩

theorem pairOK_nil (s : S) : PairOK [] [] s := ⟨rfl, fun _ h => by cases h⟩

theorem pairOK_append {cs vs cs' vs' : List Nat} {s : S} (h1 : PairOK cs vs s) (h2 : PairOK cs' vs' s) :
    PairOK (cs ++ cs') (vs ++ vs') s := by
  refine ⟨by simp [h1.1, h2.1], ?_⟩
  intro p hp
  rw [List.zip_append h1.1.symm] at hp
  rcases List.mem_append.mp hp with hp | hp
  · exact h1.2 p hp
  · exact h2.2 p hp

theorem pairOK_single (c v : Nat) (s : S) (h : oSolv s.origins v = some c) : PairOK [c] [v] s :=
  ⟨rfl, fun p hp => by simp at hp; subst hp; exact h⟩

theorem pairOK_sides {cs vs : List Nat} {s : S} (h : PairOK cs vs s) :
    (∀ v ∈ vs, ∃ c ∈ cs, oSolv s.origins v = some c) ∧ (∀ c ∈ cs, ∃ v ∈ vs, oSolv s.origins v = some c) := by
  obtain ⟨hl, hz⟩ := h
  have hm : ∀ i (h1 : i < cs.length) (h2 : i < vs.length), oSolv s.origins vs[i] = some cs[i] := fun i h1 h2 =>
    hz (cs[i], vs[i]) (by
      have : i < (cs.zip vs).length := by simp [List.length_zip]; omega
      simpa [List.getElem_zip] using List.getElem_mem this)
  constructor
  · intro v hv
    obtain ⟨i, hi, rfl⟩ := List.getElem_of_mem hv
    have hi' : i < cs.length := by omega
    exact ⟨cs[i], List.getElem_mem hi', hm i hi' hi⟩
  · intro c hc
    obtain ⟨i, hi, rfl⟩ := List.getElem_of_mem hc
    have hi' : i < vs.length := by omega
    exact ⟨vs[i], List.getElem_mem hi', hm i hi hi'⟩

/-- the variables `vars` stand for exactly the candidates of the requirement `r` -/
def CandVars (U : Universe) (s : S) (r : Req) (vars : List Nat) : Prop :=
  (∀ v ∈ vars, ∃ c, oSolv s.origins v = some c ∧ c ∈ U.reqCands r) ∧ (∀ c ∈ U.reqCands r, ∃ v ∈ vars, oSolv s.origins v = some c)

/-- the variables `vars` stand, position by position, for the requirement's candidates in the provider's preference order:
    `PairOK (reqSorted U r) vars s` -/
def OrdVars (U : Universe) (s : S) (r : Req) (vars : List Nat) : Prop :=
  vars.length = (reqSorted U r).length ∧ ∀ p ∈ (reqSorted U r).zip vars, oSolv s.origins p.2 = some p.1

theorem OrdVars.candVars {U : Universe} {s : S} {r : Req} {vars : List Nat} (h : OrdVars U s r vars) : CandVars U s r vars :=
  let ⟨h1, h2⟩ := pairOK_sides h
  ⟨fun v hv => let ⟨c, hc, hv⟩ := h1 v hv; ⟨c, hv, (mem_reqSorted U r c).mp hc⟩, fun c hc => h2 c ((mem_reqSorted U r c).mpr hc)⟩

/-- the part of the invariant about literals: solvable variables are unique, the cached variables of a requirement stand
    for exactly its candidates, and every requires clause finds its requirement in that cache -/
structure XInv (U : Universe) (s : S) : Prop where
  inj : ∀ v x, s.origins.lookup v = some (.solvable x) → s.solvVar.lookup x = some v
  cache : ∀ r vsVars, s.reqCands.lookup r = some vsVars → CandVars U s r vsVars.flatten
  order : ∀ r vsVars, s.reqCands.lookup r = some vsVars → OrdVars U s r vsVars.flatten
  reqs : ∀ c ∈ s.clauses.toList, ∀ p r, c.kind = .requires p r → (s.reqCands.lookup r).isSome = true

theorem xinv_of_view {U : Universe} {s s' : S} (h : XInv U s) (h1 : s'.origins = s.origins) (h2 : s'.solvVar = s.solvVar)
    (h4 : s'.clauses = s.clauses) (h7 : s'.reqCands = s.reqCands) : XInv U s' :=
  ⟨by rw [h1, h2]; exact h.inj,
   by rw [h7]; intro r x hr; exact OrdVars.candVars (pairOK_ext (Ext.of_eq h1 h7) (h.order r x hr)),
   by rw [h7]; intro r x hr; exact pairOK_ext (Ext.of_eq h1 h7) (h.order r x hr),
   by rw [h4, h7]; exact h.reqs⟩

/-- the invariant (`wf` is the provider contract: a fact about `U`, kept here so that every lemma about `TInv` has it at hand) -/
structure TInv (U : Universe) (P : Problem) (s : S) : Prop where
  extra : XInv U s
  wf : WFU U
  root0 : s.origins.lookup 0 = some .root
  fresh : ∀ v o, s.origins.lookup v = some o → v < s.nextVar
  sv : ∀ x v, s.solvVar.lookup x = some v → s.origins.lookup v = some (.solvable x)
  kinds : ∀ c ∈ s.clauses.toList, KindTrue U P s.origins c.kind
  trk : ∀ name tr, s.trackers.lookup name = some tr → ∀ x ∈ tr.vars, ∃ sx, oSolv s.origins x = some sx ∧ U.nameOf sx = name
  queue : ∀ t ∈ s.queue, TaskLegit U P t

theorem tinv_set_queue {U : Universe} {P : Problem} {s s' : S} (h : TInv U P s) (q : List Task) (hq : ∀ t ∈ q, TaskLegit U P t)
    (h1 : s'.origins = s.origins) (h2 : s'.solvVar = s.solvVar) (h3 : s'.nextVar = s.nextVar) (h4 : s'.clauses = s.clauses)
    (h5 : s'.trackers = s.trackers) (h6 : s'.queue = q) (h7 : s'.reqCands = s.reqCands) : TInv U P s' ∧ Ext s s' :=
  ⟨⟨xinv_of_view h.extra h1 h2 h4 h7, h.wf, by rw [h1]; exact h.root0, by rw [h1, h3]; exact h.fresh, by rw [h1, h2]; exact h.sv,
    by rw [h1, h4]; exact h.kinds, by rw [h1, h5]; exact h.trk, by rw [h6]; exact hq⟩,
   Ext.of_eq h1 h7⟩

theorem tinv_of_view {U : Universe} {P : Problem} {s s' : S} (h : TInv U P s) (h1 : s'.origins = s.origins)
    (h2 : s'.solvVar = s.solvVar) (h3 : s'.nextVar = s.nextVar) (h4 : s'.clauses = s.clauses) (h5 : s'.trackers = s.trackers)
    (h6 : s'.queue = s.queue) (h7 : s'.reqCands = s.reqCands) : TInv U P s' ∧ Ext s s' :=
  tinv_set_queue h s.queue h.queue h1 h2 h3 h4 h5 h6 h7

def truthD (U : Universe) (P : Problem) : Discipline := ⟨TInv U P, fun s _ s' => Ext s s', Ext.refl, Ext.trans⟩

def TMAt (U : Universe) (P : Problem) {α : Type} (x : M α) (s : S) : Prop :=
  TInv U P s → TInv U P (runM x s).2 ∧ Ext s (runM x s).2
def TM (U : Universe) (P : Problem) {α : Type} (x : M α) : Prop := ∀ s, TMAt U P x s

variable {U : Universe} {P : Problem}

theorem tm_iff {α : Type} {x : M α} : TM U P x ↔ Keeps (truthD U P) x :=
  ⟨fun h => ⟨fun s => keepsAt_def.mpr (h s)⟩, fun h s => keepsAt_def.mp (h.on s)⟩

theorem TM.mk {α : Type} {x : M α} (h : ∀ s, TMAt U P x s) : TM U P x := h

theorem truthD_scratch : (truthD U P).IgnoresScratch := fun h hi =>
  tinv_of_view hi (congrArg Obs.origins h) (congrArg Obs.solvVar h) (congrArg Obs.nextVar h) (congrArg Obs.clauses h)
    (congrArg Obs.trackers h) (congrArg Obs.queue h) (congrArg Obs.reqCands h)

/-- a state predicate that survives every extension of the maps -/
def Stable (F : S → Prop) : Prop := ∀ s s', Ext s s' → F s → F s'

theorem stable_const (p : Prop) : Stable (fun _ => p) := fun _ _ _ h => h
theorem stable_and {F G : S → Prop} (hF : Stable F) (hG : Stable G) : Stable (fun s => F s ∧ G s) :=
  fun s s' e h => ⟨hF s s' e h.1, hG s s' e h.2⟩
theorem stable_osolv (v x : Nat) : Stable (fun s => oSolv s.origins v = some x) := fun _ _ e h => oSolv_mono e.org v x h
theorem pairOK_stable (cs vs : List Nat) : Stable (PairOK cs vs) := fun _ _ => pairOK_ext

def Tr (U : Universe) (P : Problem) {α : Type} (F : S → Prop) (x : M α) (G : α → S → Prop) : Prop :=
  ∀ s, TInv U P s → F s → TInv U P (runM x s).2 ∧ Ext s (runM x s).2 ∧ ∀ a, (runM x s).1 = .ok a → G a (runM x s).2

/-! `Tr U P` is `Triple (truthD U P)` and `Stable` is its notion of stability, by definition: the rules of `MDet/Logic.lean`. -/

theorem tr_of_tm {α : Type} {x : M α} (F : S → Prop) (h : Keeps (truthD U P) x) : Tr U P F x (fun _ _ => True) := triple_of_keeps (D := truthD U P) F h
theorem tm_of_tr {α : Type} {x : M α} {G : α → S → Prop} (h : Tr U P (fun _ => True) x G) : Keeps (truthD U P) x := keeps_of_triple (D := truthD U P) h
theorem tr_weaken {α : Type} {F F' : S → Prop} {x : M α} {G G' : α → S → Prop}
    (h : Tr U P F x G) (hpre : ∀ s, F' s → F s) (hpost : ∀ a s, G a s → G' a s) : Tr U P F' x G' := triple_weaken (D := truthD U P) h hpre hpost
theorem tr_panic_bind {α β : Type} (F : S → Prop) (site : String) (k : α → M β) (G : β → S → Prop) :
    Tr U P F ((panic site : M α) >>= k) G := triple_panic_bind (D := truthD U P) F site k G
theorem tr_pure_ctx {α : Type} {F : S → Prop} (a : α) {G : α → S → Prop} (h : ∀ s, F s → G a s) : Tr U P F (pure a : M α) G :=
  triple_pure_ctx (D := truthD U P) a h

theorem tr_bind {α β : Type} {F : S → Prop} {x : M α} {G : α → S → Prop} {k : α → M β} {H : β → S → Prop}
    (hF : Stable F) (hx : Tr U P F x G) (hk : ∀ a, Tr U P (fun s => F s ∧ G a s) (k a) H) : Tr U P F (x >>= k) H :=
  triple_bind (D := truthD U P) hF hx hk

theorem tr_bind_keeps {α β : Type} {F : S → Prop} {x : M α} {G : α → S → Prop} {k : α → M β} (hx : Tr U P F x G)
    (hk : ∀ a, Keeps (truthD U P) (k a)) : Tr U P F (x >>= k) (fun _ _ => True) := triple_bind_keeps (D := truthD U P) hx hk
theorem tr_get_bind {β : Type} {F : S → Prop} {k : S → M β} {H : β → S → Prop} (hk : ∀ s0, Tr U P F (k s0) H) :
    Tr U P F (get >>= k) H := triple_get_bind (D := truthD U P) hk
theorem tr_ite {α : Type} {F : S → Prop} {c : Prop} [Decidable c] {x y : M α} {G : α → S → Prop}
    (hx : c → Tr U P F x G) (hy : ¬c → Tr U P F y G) : Tr U P F (if c then x else y) G := triple_ite (D := truthD U P) hx hy

theorem tr_forIn {γ δ : Type} {F : S → Prop} (hF : Stable F) (xs : List γ) (init : δ) (body : γ → δ → M (ForInStep δ))
    (h : ∀ x b, x ∈ xs → Tr U P F (body x b) (fun _ _ => True)) :
    Tr U P F (forIn xs init body) (fun _ _ => True) := triple_forIn (D := truthD U P) hF xs init body h

theorem tr_forIn_inv {γ δ : Type} {F : S → Prop} (hF : Stable F) (I : List γ → δ → S → Prop)
    (body : γ → δ → M (ForInStep δ)) (xs : List γ) (pre : List γ) (init : δ)
    (h : ∀ pre' x b, x ∈ xs → Tr U P (fun s => F s ∧ I pre' b s) (body x b) (fun r s => ∃ b', r = .yield b' ∧ I (pre' ++ [x]) b' s)) :
    Tr U P (fun s => F s ∧ I pre init s) (forIn xs init body) (fun b s => I (pre ++ xs) b s) :=
  triple_forIn_inv (D := truthD U P) hF I body xs pre init h

theorem TInv.fresh_none {s : S} (hi : TInv U P s) : s.origins.lookup s.nextVar = none := by
  cases hl : s.origins.lookup s.nextVar with
  | none => rfl
  | some x => exact absurd (hi.fresh _ x hl) (Nat.lt_irrefl _)

/-- The next variable is allocated with origin `o` (`VariableMap::intern_solvable`, `alloc_forbid_multiple_variable`). If `o`
    is a solvable it is one that had no variable, and the variable is entered under it: the two maps stay inverse. -/
theorem tinv_alloc_var {s : S} (hi : TInv U P s) (o : Origin) (s' : S)
    (ho : s'.origins = (s.nextVar, o) :: s.origins) (hn : s'.nextVar = s.nextVar + 1)
    (hs : (∃ x, o = .solvable x ∧ s.solvVar.lookup x = none ∧ s'.solvVar = (x, s.nextVar) :: s.solvVar) ∨
      ((∀ x, o ≠ .solvable x) ∧ s'.solvVar = s.solvVar))
    (hc : s'.clauses = s.clauses) (ht : s'.trackers = s.trackers) (hq : s'.queue = s.queue) (hr : s'.reqCands = s.reqCands) :
    TInv U P s' ∧ Ext s s' := by
  have hext : Ext s s' := ⟨fun w x hw => ho ▸ lookup_cons_stable _ _ _ hi.fresh_none w x hw, fun r x hx => hr ▸ hx⟩
  have hnew : s'.origins.lookup s.nextVar = some o := by rw [ho, List.lookup_cons, beq_self_eq_true]
  have old : ∀ {v o'}, s'.origins.lookup v = some o' → (v = s.nextVar ∧ o = o') ∨ s.origins.lookup v = some o' :=
    fun h => lookup_cons_some (ho ▸ h)
  have maps : (∀ x v, s'.solvVar.lookup x = some v → s'.origins.lookup v = some (.solvable x)) ∧
      ∀ v x, s'.origins.lookup v = some (.solvable x) → s'.solvVar.lookup x = some v := by
    rcases hs with ⟨x, rfl, hl, hsv⟩ | ⟨hno, hsv⟩
    · rw [hsv]
      refine ⟨fun y v h => ?_, fun v y h => ?_⟩
      · rcases lookup_cons_some h with ⟨rfl, rfl⟩ | h
        · exact hnew
        · exact hext.org _ _ (hi.sv y v h)
      · rcases old h with ⟨rfl, e⟩ | h
        · cases e
          rw [List.lookup_cons, beq_self_eq_true]
        · have h1 := hi.extra.inj v y h
          rw [List.lookup_cons, beq_false_of_ne fun e => by rw [e, hl] at h1; cases h1]
          exact h1
    · rw [hsv]
      exact ⟨fun y v h => hext.org _ _ (hi.sv y v h),
        fun v y h => (old h).elim (fun e => absurd e.2 (hno y)) (hi.extra.inj v y)⟩
  refine ⟨⟨⟨maps.2, ?_, ?_, by rw [hc, hr]; exact hi.extra.reqs⟩, hi.wf, hext.org 0 _ hi.root0, ?_, maps.1, ?_, ?_,
    by rw [hq]; exact hi.queue⟩, hext⟩
  · rw [hr]; exact fun r x hrx => OrdVars.candVars (pairOK_ext hext (hi.extra.order r x hrx))
  · rw [hr]; exact fun r x hrx => pairOK_ext hext (hi.extra.order r x hrx)
  · rw [hn]
    exact fun v x hv => (old hv).elim (fun e => e.1 ▸ Nat.lt_succ_self _) fun h => Nat.lt_succ_of_lt (hi.fresh v x h)
  · rw [hc]; exact fun c hcm => kindTrue_mono hext.org U P c.kind (hi.kinds c hcm)
  · rw [ht]
    exact fun name tr hl x hx => let ⟨sx, h1, h2⟩ := hi.trk name tr hl x hx; ⟨sx, oSolv_mono hext.org x sx h1, h2⟩

/-- `intern_solvable`: the returned variable stands for the solvable -/
theorem tr_internSolvable (F : S → Prop) (x : Nat) : Tr U P F (internSolvable x) (fun v s => oSolv s.origins v = some x) := by
  intro s hi _
  unfold internSolvable
  simp only [runM_bind, runM_get]
  cases hl : s.solvVar.lookup x with
  | some v => exact ⟨hi, Ext.refl s, fun a ha => by cases ha; exact oSolv_eq_some.mpr (hi.sv x v hl)⟩
  | none =>
    simp only [runM_bind, runM_set, emit, runM_modify, runM_pure]
    refine and_assoc.mp ⟨tinv_alloc_var hi (.solvable x) _ rfl rfl (.inl ⟨x, rfl, hl, rfl⟩) rfl rfl rfl rfl, fun a ha => ?_⟩
    cases ha
    exact oSolv_eq_some.mpr (by rw [List.lookup_cons, beq_self_eq_true])

theorem tm_internSolvable (x : Nat) : Keeps (truthD U P) (internSolvable x) := tm_of_tr (tr_internSolvable _ x)

/-- what `intern_solvable_or_root` returns for a task's solvable-or-root: a variable with the same dependencies -/
def SidVar (sid : SoR) (v : Nat) (s : S) : Prop :=
  match sid with
  | none => v = 0
  | some x => oSolv s.origins v = some x

theorem sidVar_stable (sid : SoR) (v : Nat) : Stable (SidVar sid v) := by
  intro s s' h hs
  cases sid with
  | none => exact hs
  | some x => exact oSolv_mono h.org v x hs

theorem parentDeps_of_sidVar (s : S) (hi : TInv U P s) (sid : SoR) (v : Nat) (h : SidVar sid v s) :
    oParentDeps U P s.origins v = sidDeps U P sid := by
  unfold oParentDeps sidDeps
  cases sid with
  | none => rw [show v = 0 from h, hi.root0]
  | some x => rw [oSolv_eq_some.mp h]; rfl

theorem tr_internSoR (F : S → Prop) (sid : SoR) : Tr U P F (internSoR sid) (fun v s => SidVar sid v s) := by
  cases sid with
  | none => exact tr_pure_ctx 0 fun _ _ => rfl
  | some x => exact tr_internSolvable F x

theorem tm_allocForbidVar (name : Nat) : Keeps (truthD U P) (allocForbidVar name) := by
  unfold allocForbidVar
  exact keeps_get_bind fun s => keepsAt_set_bind
    (fun hi => tinv_alloc_var hi (.forbid name) _ rfl rfl (.inr ⟨fun _ h => (nomatch h), rfl⟩) rfl rfl rfl rfl)
    ((keeps_bind (keeps_emit truthD_scratch _) fun _ => keeps_pure _).on _)

/-- the clause arena changes to clauses it held and one whose kind is true (a requires clause must find its requirement
    in the cache of candidate variables) -/
theorem tinv_clauses {s : S} (hi : TInv U P s) (cl : Array MClause) (c' : MClause)
    (hmem : ∀ c ∈ cl.toList, c ∈ s.clauses.toList ∨ c = c')
    (hk : KindTrue U P s.origins c'.kind ∧ ∀ p r, c'.kind = .requires p r → (s.reqCands.lookup r).isSome = true) :
    TInv U P { s with clauses := cl } ∧ Ext s { s with clauses := cl } :=
  ⟨⟨⟨hi.extra.inj, hi.extra.cache, hi.extra.order,
      fun c hc p r hkr => (hmem c hc).elim (hi.extra.reqs c · p r hkr) fun e => by subst e; exact hk.2 p r hkr⟩,
    hi.wf, hi.root0, hi.fresh, hi.sv, fun c hc => (hmem c hc).elim (hi.kinds c) fun e => by subst e; exact hk.1, hi.trk, hi.queue⟩,
   Ext.of_eq rfl rfl⟩

/-- `Clauses::alloc` of a clause whose kind is true in every state the context allows -/
theorem tr_allocClause (F : S → Prop) (k : Kind) (w : Option (Lit × Lit))
    (hk : ∀ s, TInv U P s → F s → KindTrue U P s.origins k ∧ ∀ p r, k = .requires p r → (s.reqCands.lookup r).isSome = true) :
    Tr U P F (allocClause k w) (fun _ _ => True) := by
  intro s hi hF
  unfold allocClause
  simp only [runM_bind, runM_get, emit, runM_modify, runM_pure]
  obtain ⟨i1, e1⟩ := tinv_clauses hi (s.clauses.push ⟨k, w⟩) ⟨k, w⟩
    (fun c hc => by simpa only [Array.toList_push, List.mem_append, List.mem_singleton] using hc) (hk s hi hF)
  have i2 := tinv_of_view (s' := { s with clauses := s.clauses.push ⟨k, w⟩, trace := Ev.clause s.clauses.size k :: s.trace })
    i1 rfl rfl rfl rfl rfl rfl rfl
  exact ⟨i2.1, Ext.of_eq rfl rfl, fun _ _ => trivial⟩

theorem tr_allocClause_nr (F : S → Prop) (k : Kind) (w : Option (Lit × Lit)) (hnr : ∀ p r, k ≠ .requires p r)
    (hk : ∀ s, TInv U P s → F s → KindTrue U P s.origins k) : Tr U P F (allocClause k w) (fun _ _ => True) :=
  tr_allocClause F k w (fun s hi hF => ⟨hk s hi hF, fun p r h => absurd h (hnr p r)⟩)

/-- a clause is overwritten in place by one with a true kind (the watch update of propagation) -/
theorem tinv_setClause {s : S} (hi : TInv U P s) (cid : Nat) (c' : MClause)
    (hk : KindTrue U P s.origins c'.kind ∧ ∀ p r, c'.kind = .requires p r → (s.reqCands.lookup r).isSome = true) :
    TInv U P { s with clauses := s.clauses.set! cid c' } ∧ Ext s { s with clauses := s.clauses.set! cid c' } :=
  tinv_clauses hi _ c' (fun c hc => List.mem_or_eq_of_mem_set (by simpa [Array.set!, Array.toList_setIfInBounds] using hc)) hk

/-- `requirement_to_sorted_candidates.insert` (first insert wins) of variables that stand for exactly the requirement's candidates -/
theorem tr_cacheInsert (F : S → Prop) (r : Req) (vsVars : List (List Nat))
    (h : ∀ s, TInv U P s → F s → OrdVars U s r vsVars.flatten) :
    Tr U P F (modify fun s => if (s.reqCands.lookup r).isSome then s else { s with reqCands := s.reqCands ++ [(r, vsVars)] } : M Unit)
      (fun _ s => (s.reqCands.lookup r).isSome = true) := by
  intro s hi hF
  simp only [runM_modify]
  by_cases hc : (s.reqCands.lookup r).isSome = true
  · rw [if_pos hc]
    exact ⟨hi, Ext.refl s, fun _ _ => hc⟩
  · rw [if_neg hc]
    have old : ∀ r' x, s.reqCands.lookup r' = some x → (s.reqCands ++ [(r, vsVars)]).lookup r' = some x :=
      fun r' x hr => by rw [List.lookup_append, hr]; rfl
    have new : (s.reqCands ++ [(r, vsVars)]).lookup r = some vsVars := by
      rw [List.lookup_append, Option.not_isSome_iff_eq_none.mp hc, List.lookup_cons_self]; rfl
    have ord : ∀ r' x, (s.reqCands ++ [(r, vsVars)]).lookup r' = some x → OrdVars U s r' x.flatten := fun r' x hr => by
      rcases lookup_append_single hr with hl | ⟨rfl, rfl⟩
      · exact hi.extra.order r' _ hl
      · exact h s hi hF
    refine ⟨⟨⟨hi.extra.inj, fun r' x hr => (ord r' x hr).candVars, ord, fun c hcm p r' hk => ?_⟩, hi.wf, hi.root0, hi.fresh, hi.sv,
      hi.kinds, hi.trk, hi.queue⟩, ⟨fun _ _ h => h, old⟩, fun _ _ => by rw [new]; rfl⟩
    obtain ⟨y, hl⟩ := Option.isSome_iff_exists.mp (hi.extra.reqs c hcm p r' hk)
    rw [old r' y hl]; rfl

end Resolvo.MDet
