import Resolvo.MDet.Truth
import Resolvo.MDet.TaskWalk
/-!
# The invariant of `MDet/Truth.lean` through every function of the model (synchronous and asynchronous)

`TInv` speaks about the variable map, the clause arena, the at-most-one trackers, the work list and the requirement
cache. The functions that write them are shown here to keep it, with the provider's facts as context; the loops of
the encoder are those of `MDet/TaskWalk.lean` (the tasks that may be run are the legitimate ones), everything else
is left to `MDet/Walk.lean`.
-/
namespace Resolvo.MDet
open Resolvo Resolvo.Sat Resolvo.Abs

variable {U : Universe} {P : Problem}

theorem truthD_decisions : (truthD U P).IgnoresDecisions := fun _ _ _ _ h => tinv_of_view h rfl rfl rfl rfl rfl rfl rfl
theorem truthD_provider : (truthD U P).IgnoresProvider := fun _ _ _ _ _ _ _ h => tinv_of_view h rfl rfl rfl rfl rfl rfl rfl

theorem tm_getCandidates (U' : Universe) (n : Nat) : Keeps (truthD U P) (getCandidates U' n) :=
  keeps_getCandidates id truthD_scratch truthD_provider U' n
theorem tm_getDeps (U : Universe) (sv : Nat) : TM U P (getDeps U sv) :=
  tm_iff.mpr (keeps_getDeps id truthD_scratch truthD_provider U sv)
theorem tm_getNonMatching (U : Universe) (vs : Nat) : TM U P (getNonMatching U vs) :=
  tm_iff.mpr (keeps_getNonMatching U vs (tm_getCandidates U _))
theorem tm_getSortedVs (U : Universe) (vs : Nat) : TM U P (getSortedVs U vs) :=
  tm_iff.mpr (keeps_getSortedVs truthD_scratch U vs (tm_getCandidates U _))

/-- the tasks `TInv` allows on the work list are the legitimate ones -/
theorem truthD_tasks : Tasks (truthD U P) (fun _ => TaskLegit U P) where
  scratch := truthD_scratch
  stable _ := stable_const _
  queued hi := hi.queue
  setQueue _ q _ hq hi := tinv_set_queue hi q (hq hi) rfl rfl rfl rfl rfl rfl rfl
  deps _ _ := trivial

/-- the variables `A` holds of stand for solvables of the package `n` -/
def VarsOf (U : Universe) (n : Nat) (A : Nat → Prop) (s : S) : Prop := ∀ x, A x → ∃ sx, oSolv s.origins x = some sx ∧ U.nameOf sx = n

theorem varsOf_stable {n : Nat} {A : Nat → Prop} : Stable (VarsOf U n A) :=
  fun _ _ e h x hx => let ⟨sx, h1, h2⟩ := h x hx; ⟨sx, oSolv_mono e.org x sx h1, h2⟩

/-- the fact an exclusion clause states -/
def ExclTrue (U : Universe) (sid : SoR) (reason : Nat) : Prop :=
  ∃ x, sid = some x ∧ (U.deps x = .unknown reason ∨ ∃ p, U.pkg? (U.nameOf x) = some p ∧ (x, reason) ∈ p.excluded)

theorem tr_addExclusionClause (F : S → Prop) (hF : Stable F) (sid : SoR) (reason : Nat) (h : WFU U → ExclTrue U sid reason) :
    Tr U P F (addExclusionClause sid reason) (fun _ _ => True) := by
  unfold addExclusionClause
  refine tr_bind hF (tr_internSoR F sid) fun v => tr_bind_keeps (G := fun _ _ => True) ?_ fun _ => by
    walk truthD_scratch using keeps_emit truthD_scratch _
  refine tr_allocClause_nr _ _ _ (fun _ _ h => nomatch h) fun s hi hFs => ?_
  obtain ⟨x, rfl, hx⟩ := h hi.wf
  exact ⟨x, hFs.2, hx⟩

/-- `add_forbid_multiple_clauses` for a variable that stands for the candidate -/
theorem tr_addForbidMultiple (F : S → Prop) (U : Universe) (c v : Nat)
    (hv : ∀ s, F s → oSolv s.origins v = some c) : Tr U P F (addForbidMultiple U c v) (fun _ _ => True) := by
  intro s hi hFs
  unfold addForbidMultiple
  rw [runM_bind, runM_get]
  dsimp only
  rw [runM_bind, runM_modify]
  generalize htr : (s.trackers.lookup (U.nameOf c)).getD {} = tr
  -- the variables of the tracker the state holds for this name, and the new one, stand for solvables of the package
  have hctx : VarsOf U (U.nameOf c) (fun x => x ∈ tr.vars ∨ x = v) s := by
    rintro x (hx | rfl)
    · cases hl : s.trackers.lookup (U.nameOf c) with
      | none => rw [← htr, hl] at hx; cases hx
      | some tr' => rw [← htr, hl] at hx; exact hi.trk _ tr' hl x hx
    · exact ⟨c, hv s hFs, rfl⟩
  -- the rest runs from the state with the tracker written back
  refine triple_at (D := truthD U P) (s0 := s) (F := VarsOf U (U.nameOf c) fun x => x ∈ tr.vars ∨ x = v) (G := fun _ _ => True) ?_ ⟨xinv_of_view hi.extra rfl rfl rfl rfl, hi.wf, hi.root0, hi.fresh, hi.sv, hi.kinds,
    fun name tr' hl x hx => ?_, hi.queue⟩ hctx (Ext.of_eq rfl rfl)
  · refine tr_bind_keeps (tr_forIn varsOf_stable _ _ _ fun fc _ hfc => tr_get_bind fun s0 => ?_) fun _ => keeps_pure _
    -- every clause is about a tracked variable or the new one
    have alloc : Tr U P (VarsOf U (U.nameOf c) fun x => x ∈ tr.vars ∨ x = v)
        (allocClause (.forbid fc.a fc.b fc.pos (U.nameOf c)) (some ((fc.a, false), (fc.b, fc.pos)))) (fun _ _ => True) :=
      tr_allocClause_nr _ _ _ (fun _ _ h => nomatch h) fun _ _ hF' => hF' fc.a (Amo.add_out_a tr s.nextVar v fc hfc)
    exact tr_ite (fun _ => tr_bind varsOf_stable (tr_of_tm _ (tm_allocForbidVar _)) fun _ =>
        tr_bind_keeps (tr_weaken alloc (fun _ h => h.1) fun _ _ h => h) fun _ => by walk using keeps_startWatching truthD_scratch _)
      fun _ => tr_bind_keeps alloc fun _ => by walk using keeps_startWatching truthD_scratch _
  · by_cases hn : name = U.nameOf c
    · subst hn
      rw [List.lookup_cons_self] at hl
      cases hl
      exact hctx x (Amo.mem_vars_add.mp hx)
    · rw [List.lookup_cons, beq_false_of_ne hn, lookup_filter_ne _ hn] at hl
      exact hi.trk name tr' hl x hx

/-- `on_dependencies_available` with the provider's answer: the tasks pushed are about requirements and constraints `sid` has -/
theorem tm_onDependencies (U : Universe) (P : Problem) (sid : SoR) (d : Deps) (hd : d = depsAnswer U P sid) :
    Keeps (truthD U P) (onDependencies U P sid d) := by
  refine keeps_of_triple (truthD_tasks.triple_onDependencies (fun _ _ _ _ h => h) U P sid d (fun reason e => ?_) fun reqs cons e _ _ => ?_)
  · refine tr_addExclusionClause _ (stable_const _) sid reason fun _ => ?_
    subst e
    cases sid with
    | none => cases hd
    | some x => exact ⟨x, rfl, .inl hd.symm⟩
  · have hs := sidDeps_of_answer (e ▸ hd)
    exact ⟨fun _ _ => trivial, fun r hr => ⟨reqs, cons, hs, hr⟩, fun c hc => ⟨reqs, cons, hs, hc⟩⟩

/-- `on_candidates_available` with the provider's answer for the package: the package as listed, or the empty default for a
    name the provider does not know (`pkg_answer`) -/
theorem tm_onCandidates (name : Nat) (p : Pkg) (hp : U.pkg? name = some p ∨ (p.locked = none ∧ p.excluded = [])) :
    TM U P (onCandidates name p) := by
  refine tm_iff.mpr ?_
  unfold onCandidates
  -- the exclusion clauses: an excluded solvable is a candidate of this package
  have excl : Keeps (truthD U P) (forIn p.excluded PUnit.unit fun x _ => do
      let _ ← addExclusionClause (some x.1) x.2; pure (ForInStep.yield PUnit.unit)) := by
    refine keeps_forIn _ _ fun (sv, reason) _ hx => keeps_bind (tm_of_tr (tr_addExclusionClause _ (stable_const _) _ _ fun wf => ?_))
      fun _ => keeps_pure _
    rcases hp with hp | hp
    · exact ⟨sv, rfl, .inr ⟨p, by rw [wf.names name p hp sv (wf.excl name p hp (sv, reason) hx)]; exact hp, hx⟩⟩
    · rw [hp.2] at hx; cases hx
  refine keeps_bind (keeps_modify fun _ => .ite (truthD_scratch rfl) .rfl) fun _ => ?_
  cases hl : p.locked with
  | none => exact keeps_bind excl fun _ => keeps_pure _
  | some locked =>
    have hpk : U.pkg? name = some p := hp.resolve_right fun h => by rw [h.1] at hl; cases hl
    refine keeps_bind (tm_internSolvable _) fun _ => keeps_bind ?_ fun _ => keeps_bind excl fun _ => keeps_pure _
    -- the lock clauses: the locked solvable and the other one are candidates of this package
    refine tm_of_tr (tr_forIn (F := fun _ => True) (stable_const _) _ _ _ fun other _ hother =>
      tr_ite (fun hne => ?_) fun _ => tr_of_tm _ (keeps_pure _))
    refine tr_bind (stable_const _) (tr_internSolvable _ other) fun ov =>
      tr_bind (stable_and (stable_const _) (stable_osolv _ _)) (tr_internSolvable _ locked) fun lv =>
      tr_bind_keeps (G := fun _ _ => True) ?_ fun _ => by walk using keeps_startWatching truthD_scratch _
    refine tr_allocClause_nr _ _ _ (fun _ _ h => nomatch h) fun s hi hF => ?_
    have hname : U.nameOf other = name := hi.wf.names name p hpk other hother
    exact ⟨locked, other, p, hF.2, hF.1.2, by rw [hname]; exact hpk, hl, by simpa using hne⟩

/-- `on_constraint_candidates_available` for a constraint of the solvable and its non-matching candidates -/
theorem tm_onConstraintCandidates (sid : SoR) (vs : Nat) (cands : List Nat) (hc : TaskLegit U P (.cons sid vs))
    (hcands : ∀ f ∈ cands, f ∈ U.nonMatching vs) : TM U P (onConstraintCandidates sid vs cands) := by
  refine tm_iff.mpr ?_
  unfold onConstraintCandidates
  refine tm_of_tr (G := fun _ _ => True) (tr_bind (stable_const _) (tr_internSoR _ sid) fun pvar => ?_)
  have hS := stable_and (stable_const True) (sidVar_stable sid pvar)
  refine tr_bind_keeps (tr_forIn hS _ _ _ fun f _ hf => tr_bind hS (tr_internSolvable _ f) fun fv => tr_get_bind fun s0 => ?_)
    fun _ => keeps_pure _
  refine tr_ite (fun _ => tr_panic_bind _ _ _ _) fun _ => tr_bind_keeps (G := fun _ _ => True) ?_ fun _ => by
    walk truthD_scratch using keeps_emit truthD_scratch _, keeps_startWatching truthD_scratch _
  refine tr_allocClause_nr _ _ _ (fun _ _ h => nomatch h) fun s hi hF => ?_
  obtain ⟨reqs, cons, h1, h2⟩ := hc
  refine ⟨⟨reqs, cons, ?_, h2⟩, f, hF.2, hcands f hf⟩
  rw [parentDeps_of_sidVar s hi sid pvar hF.1.2]; exact h1

/-- `on_requirement_candidates_available` for a requirement of the solvable -/
theorem tm_onRequirementCandidates (U : Universe) (sid : SoR) (r : Req) (candidates : List (List Nat))
    (hr : TaskLegit U P (.req sid r)) (hcs : candidates = (U.reqVersionSets r).map (sortedCands U)) :
    TM U P (onRequirementCandidates U sid r candidates) := by
  refine tm_iff.mpr ?_
  have hflat : candidates.flatten = reqSorted U r := by
    rw [hcs]; unfold reqSorted; rw [List.flatMap_def]
  unfold onRequirementCandidates
  refine tm_of_tr (G := fun _ _ => True) (tr_bind (stable_const _) (tr_internSoR _ sid) fun pvar => ?_)
  have hS := sidVar_stable sid pvar
  refine tr_weaken (F := fun s => SidVar sid pvar s) ?_ (fun s h => h.2) (fun _ _ h => h)
  refine tr_bind hS (G := fun vsVars s => PairOK candidates.flatten vsVars.flatten s) ?_ fun vsVars => ?_
  · refine tr_weaken (tr_forIn_inv hS (fun (pre acc : List (List Nat)) s => PairOK pre.flatten acc.flatten s) _ candidates [] []
      fun pre cs acc _ => ?_) (fun s h => ⟨h, pairOK_nil s⟩) (fun b s h => by simpa using h)
    have hSP := stable_and hS (pairOK_stable pre.flatten acc.flatten)
    refine tr_bind hSP (G := fun vars s => PairOK cs vars s) ?_ fun vars => tr_pure_ctx _ fun s h => ⟨_, rfl, ?_⟩
    · refine tr_weaken (tr_forIn_inv hSP (fun (pre2 vars : List Nat) s => PairOK pre2 vars s) _ cs [] [] fun pre2 c vars _ => ?_)
        (fun s h => ⟨h, pairOK_nil s⟩) (fun b s h => by simpa using h)
      exact tr_bind (stable_and hSP (pairOK_stable _ _)) (tr_internSolvable _ c) fun v =>
        tr_pure_ctx _ fun s h => ⟨_, rfl, pairOK_append h.1.2 (pairOK_single c v s h.2)⟩
    · simp only [List.flatten_append, List.flatten_cons, List.flatten_nil, List.append_nil]
      exact pairOK_append h.1.2 h.2
  have hSP := stable_and hS (pairOK_stable candidates.flatten vsVars.flatten)
  refine tr_bind hSP (G := fun _ _ => True) (tr_forIn hSP _ _ _ fun (c, v) _ hx => tr_get_bind fun s0 => ?_) fun _ =>
    tr_get_bind fun s0 => ?_
  · -- a candidate is registered with the tracker of its package under the variable that stands for it
    have add := tr_addForbidMultiple (P := P) (fun s => SidVar sid pvar s ∧ PairOK candidates.flatten vsVars.flatten s) U c v
      fun s h => h.2.2 (c, v) hx
    exact tr_ite (fun _ => tr_bind hSP (tr_of_tm _ (truthD_tasks.keeps_queueSolvable _)) fun _ =>
      tr_bind_keeps (tr_weaken add (fun _ h => h.1) fun _ _ h => h) fun _ => keeps_pure _) fun _ => tr_bind_keeps add fun _ => keeps_pure _
  · refine tr_ite (fun _ => tr_panic_bind _ _ _ _) fun _ =>
      tr_bind (stable_and hSP (stable_const _)) (G := fun _ s => (s.reqCands.lookup r).isSome = true) ?_ fun _ =>
      tr_bind_keeps (G := fun _ _ => True) ?_ fun _ => by
        walk truthD_scratch using keeps_emit truthD_scratch _, keeps_startWatching truthD_scratch _
    · refine tr_cacheInsert _ r vsVars fun s hi hF => ?_
      exact show PairOK (reqSorted U r) vsVars.flatten s from hflat ▸ hF.1.2
    · refine tr_allocClause _ _ _ fun s hi hF => ?_
      obtain ⟨reqs, cons, h1, h2⟩ := hr
      refine ⟨⟨reqs, cons, ?_, h2⟩, fun p r' hk => by cases hk; exact hF.2⟩
      rw [parentDeps_of_sidVar s hi sid pvar hF.1.1.1]; exact h1

theorem pkg_answer (U : Universe) (n : Nat) (p : Pkg) (h : p = (U.pkg? n).getD { cands := [] }) :
    U.pkg? n = some p ∨ (p.locked = none ∧ p.excluded = []) := by
  cases hp : U.pkg? n with
  | none => rw [hp] at h; subst h; exact Or.inr ⟨rfl, rfl⟩
  | some q => rw [hp] at h; subst h; exact Or.inl rfl

/-- one task of the synchronous encoder: the callback is handed what the provider answered -/
theorem tm_runTask (U : Universe) (P : Problem) (t : Task) (ht : TaskLegit U P t) : Keeps (truthD U P) (runTask U P t) := by
  cases t with
  | deps sid =>
    cases sid with
    | none => exact tm_onDependencies U P none _ rfl
    | some sv => exact keeps_bind_post (tm_iff.mp (tm_getDeps U sv)) (fun _ d _ e => (getDeps_post d _ e).1) fun d hd => tm_onDependencies U P (some sv) d hd
  | pkg n =>
    exact keeps_bind_post (tm_getCandidates U n) (fun _ => getCandidates_post) fun p hp =>
      tm_iff.mp (tm_onCandidates n p (pkg_answer U n p hp))
  | req sid r =>
    unfold runTask
    refine keeps_bind_post (Q := fun lists => lists = (U.reqVersionSets r).map (sortedCands U))
      (keeps_forIn _ _ fun vs _ _ => keeps_bind (tm_iff.mp (tm_getSortedVs U vs)) fun _ => keeps_pure _) (fun s => ?_)
      fun lists hl => tm_iff.mp (tm_onRequirementCandidates U sid r lists ht hl)
    exact PostAt.forIn (fun pre acc => acc = pre.map (sortedCands U)) _ (fun pre vs acc _ hI =>
      .bind getSortedVs_post fun l _ hl => .pure ⟨_, rfl, by rw [hI, hl, List.map_append]; rfl⟩) [] [] s rfl
  | cons sid vs =>
    exact keeps_bind_post (tm_iff.mp (tm_getNonMatching U vs)) (fun _ => getNonMatching_post) fun l hl =>
      tm_iff.mp (tm_onConstraintCandidates sid vs l ht fun f hf => hl ▸ hf)

/-- the answer a finished future hands over is the provider's answer to its task -/
def ResFor (U : Universe) (P : Problem) : Task → TaskResult → Prop
  | .deps sid, .deps sid' d => sid' = sid ∧ d = depsAnswer U P sid
  | .pkg n, .cands n' p => n' = n ∧ p = (U.pkg? n).getD { cands := [] }
  | .req sid r, .req sid' r' _ => sid' = sid ∧ r' = r
  | .cons sid vs, .cons sid' vs' l => sid' = sid ∧ vs' = vs ∧ l = U.nonMatching vs
  | _, _ => False

macro "res_fin" ht:ident : tactic => `(tactic| (intro r hr; first | (cases hr; done) | (cases hr; rw [$ht:ident]; simp [ResFor, depsAnswer])))

theorem pollTask_res (U : Universe) (P : Problem) (t : ATask) (a : AS) (s s' : S) (t' : ATask) (a' : AS)
    (res : Option TaskResult) (h : runM (pollTask U P t a) s = (.ok (t', a', res), s')) :
    ∀ r, res = some r → ResFor U P t.task r := by
  intro r hr
  rw [(pollTask_post _ _ h).res r hr]
  cases t.task with
  | deps sid => cases sid <;> exact ⟨rfl, rfl⟩
  | pkg _ => exact ⟨rfl, rfl⟩
  | req _ _ => exact ⟨rfl, rfl⟩
  | cons _ _ => exact ⟨rfl, rfl, rfl⟩

theorem tm_runCallback (t : Task) (cs : List Child) (ht : TaskLegit U P t)
    (hcs : ∀ sid q, t = .req sid q → cs.map (·.vs) = U.reqVersionSets q) : Keeps (truthD U P) (runCallback U P (answerOf U P cs t)) := by
  cases t with
  | deps sid =>
    cases sid with
    | none => exact tm_onDependencies U P none _ rfl
    | some sv => exact tm_onDependencies U P (some sv) _ rfl
  | pkg n => exact tm_iff.mp (tm_onCandidates n _ (pkg_answer U n _ rfl))
  | req sid q => exact tm_iff.mp (tm_onRequirementCandidates U sid q _ ht (by rw [← hcs sid q rfl, List.map_map]; rfl))
  | cons sid vs => exact tm_iff.mp (tm_onConstraintCandidates sid vs _ ht fun _ h => h)

theorem tm_adoptPushed (U : Universe) (a : AS) : TM U P (adoptPushed U a) :=
  tm_iff.mpr (keeps_get_bind fun s => keepsAt_set_bind (truthD_tasks.empty s) ((keeps_pure _).on _))

theorem tm_pollTask (U' : Universe) (P' : Problem) (t : ATask) (a : AS) : Keeps (truthD U P) (pollTask U' P' t a) :=
  keeps_pollTask truthD_scratch (keeps_pollCands id truthD_scratch truthD_provider) (keeps_startDeps id truthD_scratch truthD_provider)
    (keeps_finishDeps truthD_provider) U' P' t a

/-- A future asks about something true, and the children of a requirement future are its version sets: that is what the
    callback of the finished future needs, and polls do not change it. -/
theorem truthD_futures (U : Universe) (P : Problem) : Futures (truthD U P) (fun _ => TaskLegit U P) U P
    (fun _ t => TaskLegit U P t.task ∧ ∀ sid q, t.task = .req sid q → t.children.map (·.vs) = U.reqVersionSets q) (fun _ _ => True) where
  stable _ := stable_const _
  stableRes _ := stable_const _
  adopt _ _ _ ht h1 h2 _ := by subst h1; exact ⟨ht, h2⟩
  same _ _ _ h1 h2 h := by rw [h1, h2]; exact h
  poll t a := triple_weaken (triple_of_keeps _ (tm_pollTask U P t a)) (fun _ h => h) fun _ _ _ _ _ => trivial
  callback t cs hcs := triple_assume (fun _ h => h.1) fun h =>
    triple_of_keeps _ (tm_runCallback t.task cs h.1 fun sid q e => hcs ▸ h.2 sid q e)

theorem tm_encode (U : Universe) (P : Problem) (sv : List SoR) (fuel : Nat) : Keeps (truthD U P) (encode U P sv fuel) :=
  truthD_tasks.keeps_encode (truthD_futures U P)
    (fun t => triple_assume (fun _ h => h) fun ht => triple_of_keeps _ (tm_runTask U P t ht)) sv fuel

theorem truthD_solver (U : Universe) (P : Problem) : SolverPrims (truthD U P) U P where
  scratch := truthD_scratch
  pollCancel := keeps_pollCancel id truthD_scratch truthD_provider
  internSolvable := tm_internSolvable
  tryAdd := keeps_tryAdd truthD_scratch truthD_decisions
  undoLast := keeps_undoLast truthD_scratch truthD_decisions
  clear _ := truthD_decisions _ _ _ _
  nextUnpropagated := keeps_nextUnpropagated truthD_decisions
  allocLearnt _ w := tm_of_tr (tr_allocClause_nr (fun _ => True) _ w (fun _ _ h => nomatch h) fun _ _ _ => trivial)
  -- the clause stored back has the kind of the clause read, which is true
  rewatch _ cid c _ hc hi :=
    have hm := Array.mem_def.mp (Array.mem_of_getElem? hc)
    tinv_setClause hi cid _ ⟨hi.kinds c hm, hi.extra.reqs c hm⟩
  encode := tm_encode U P

/-- the state `solve` starts from holds the root variable and nothing else (the ascriptions make Lean compute its fields) -/
theorem tinv_reset (hU : WFU U) (s : S) : TInv U P (solveReset s) where
  extra := ⟨fun _ _ h => (lookup_cons_some h).elim (fun e => nomatch e.2) fun (e : none = _) => (nomatch e),
    fun _ _ (h : none = _) => (nomatch h), fun _ _ (h : none = _) => (nomatch h), fun _ (h : _ ∈ []) => (nomatch h)⟩
  wf := hU
  root0 := rfl
  fresh _ _ h := (lookup_cons_some h).elim (fun e => e.1 ▸ Nat.zero_lt_one) fun (e : none = _) => nomatch e
  sv _ _ (h : none = _) := nomatch h
  kinds _ (h : _ ∈ []) := nomatch h
  trk _ _ (h : none = _) := nomatch h
  queue _ (h : _ ∈ []) := nomatch h

/-- **Every clause the model ever holds states a true fact of the provider's data** (all universes that respect the
    provider contract, problems, solver states carried over from earlier solves, completion orders, cancellation plans,
    fuel; whatever the outcome of the solve, including cancellation and panics). -/
theorem solveRun_tinv (U : Universe) (hU : WFU U) (P : Problem) (fuel : Nat) (s : S) : TInv U P (solveRun U P fuel s).2 := by
  rw [solveRun_snd]
  unfold solve
  rw [runM_bind, runM_modify]
  refine ((keepsAt_def (D := truthD U P)).mp (Keeps.on ?_ _) (tinv_reset hU s)).1
  have root : Keeps (truthD U P) (allocClause .root none) :=
    tm_of_tr (tr_allocClause_nr (fun _ => True) _ _ (fun _ _ h => nomatch h) fun _ _ _ => trivial)
  refine keeps_bind root fun _ => keeps_bind (keeps_runSat (truthD_solver U P) none fuel) fun r => ?_
  split
  · exact keeps_pure _
  · exact keeps_panic_bind _ _
  · refine keeps_bind (keeps_forIn _ _ fun sv _ _ => ?_) fun _ => by walk
    -- a soft requirement: its variable stands for it when it is registered with the tracker of its package
    exact tm_of_tr (G := fun _ _ => True) (tr_bind (stable_const _) (tr_internSolvable _ sv) fun v => tr_get_bind fun s1 =>
      tr_ite (fun _ => tr_bind_keeps (tr_addForbidMultiple _ U sv v fun s h => h.2) fun _ => by
        walk using keeps_runSat (truthD_solver U P) _ _) fun _ => tr_of_tm _ (keeps_pure _))

end Resolvo.MDet

