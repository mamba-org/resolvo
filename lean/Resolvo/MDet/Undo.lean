import Resolvo.MDet.State
import Resolvo.MDet.Logic
/-!
# What `undo_last` / `undo_until` leave behind (exact model of `decision_tracker.rs`)

Postconditions of the model's `undoLast` and `undoUntil`, for every state: the stack only loses its newest entries and,
after `undo_until(level)`, nothing above `level` is left on top. (`Tracker.lean` proves the map/stack agreement is kept.)
-/
namespace Resolvo.MDet

theorem runM_undoLast_ok {s : S} : PostAt undoLast s fun _ s' =>
    ∃ d rest, s.stack = d :: rest ∧ s'.stack = rest ∧ s'.amap = s.amap.filter (fun e => e.1 != d.var) := by
  unfold undoLast
  refine .run (runM_get s) ?_
  cases s.stack with
  | nil => exact .throw
  | cons d rest =>
    refine .run rfl (.run rfl ?_)
    cases rest with
    | nil => exact .throw
    | cons t r2 => exact .pure ⟨d, _, rfl, rfl, rfl⟩

/-- `hn`: with the fuel `undoUntil` passes (stack length + 1) the loop never runs out -/
theorem undoUntil_loop_post (level n : Nat) (s : S) (hn : s.stack.length < n) :
    PostAt (undoUntil.loop level n) s fun _ s' =>
      (∃ pre, s.stack = pre ++ s'.stack) ∧ (match s'.stack with | [] => True | d :: _ => levelOf s' d.var ≤ level) := by
  induction n generalizing s with
  | zero => cases hn
  | succ n ih =>
    unfold undoUntil.loop
    refine .run (runM_get s) ?_
    cases hst : s.stack with
    | nil => exact .pure ⟨⟨[], hst.symm⟩, by rw [hst]; trivial⟩
    | cons d rest =>
      refine .ite (fun hl => .pure ⟨⟨[], hst.symm⟩, by rw [hst]; exact hl⟩) fun _ => .bind runM_undoLast_ok fun _ s1 ⟨d', rest', h1, h2, _⟩ => ?_
      obtain ⟨rfl, rfl⟩ := List.cons.inj (hst.symm.trans h1)
      intro r s' e
      obtain ⟨⟨pre, hp⟩, hq⟩ := ih s1 (by rw [hst] at hn; rw [h2]; exact Nat.lt_of_succ_lt_succ hn) r s' e
      exact ⟨⟨d :: pre, congrArg (d :: ·) (h2.symm.trans hp)⟩, hq⟩

/-- **`undo_until(level)`** (`decision_tracker.rs:66-91`; every state and level): when it returns, what is left of the
    decision stack is a suffix of what was there — nothing is reordered or invented — and nothing above `level` is left on
    top of it: the stack is empty or its newest entry was assigned at a level ≤ `level`. -/
theorem undoUntil_post (level : Nat) (s s' : S) (h : runM (undoUntil level) s = (.ok (), s')) :
    (∃ pre, s.stack = pre ++ s'.stack) ∧
    (match s'.stack with | [] => True | d :: _ => levelOf s' d.var ≤ level) := by
  unfold undoUntil at h
  split at h
  · obtain rfl := congrArg Prod.snd h
    exact ⟨⟨s.stack, (List.append_nil _).symm⟩, trivial⟩
  · exact PostAt.run (runM_get s) (undoUntil_loop_post level _ s (Nat.lt_succ_self _)) () s' h

/-- **`try_add_decision`** (`decision_tracker.rs`, every state): it never fails; it answers `some true` exactly when the
    variable had no value, and then pushes that one decision (value, reason) at the given level and changes nothing else on
    the stack; it answers `some false` exactly when the variable already had this value and `none` exactly when it had
    the opposite one, leaving stack and assignment map untouched in both cases — an assigned variable is never
    overwritten. -/
theorem tryAdd_post (v : Nat) (val : Bool) (reason level : Nat) (s : S) :
    ∃ r s', runM (tryAdd v val reason level) s = (.ok r, s') ∧
      (match valueOf s v with
       | none => r = some true ∧ s'.stack = ⟨v, val, reason⟩ :: s.stack ∧ valueOf s' v = some val ∧ levelOf s' v = level
       | some b => s'.stack = s.stack ∧ s'.amap = s.amap ∧ r = (if b == val then some false else none)) := by
  unfold tryAdd
  rw [runM_bind, runM_get]
  dsimp only
  cases valueOf s v with
  | none =>
    have hl : List.lookup v ((v, (val, level)) :: s.amap) = some (val, level) := List.lookup_cons_self
    exact ⟨_, _, rfl, rfl, rfl, congrArg (Option.map Prod.fst) hl, by unfold levelOf; exact hl ▸ rfl⟩
  | some b =>
    refine ⟨if b == val then some false else none, s, ?_, rfl, rfl, rfl⟩
    show runM (if (b == val) = true then pure (some false) else pure none) s = _
    split <;> rfl
end Resolvo.MDet
