import Resolvo.Oracles
/-!
# Supported solvables (C05) and the soundness of the support-closure oracle

`Supported` is the statement of C05: reachable from the root requirements (or an accepted soft requirement) through
requirement edges whose satisfying candidate is itself selected. Every solvable the executable closure
`supportClosure` contains is `Supported`, so the oracle's positive answers are sound.
-/
namespace Resolvo.C05
open Resolvo

inductive Supported (U : Universe) (P : Problem) (sel : List Nat) : Nat → Prop where
  | root (r : Req) (c : Nat) : r ∈ P.reqs → c ∈ U.reqCands r → c ∈ sel → Supported U P sel c
  | soft (x : Nat) : x ∈ P.soft → x ∈ sel → Supported U P sel x
  | dep (s : Nat) (r : Req) (c : Nat) : Supported U P sel s → r ∈ knownReqs U s → c ∈ U.reqCands r →
      c ∈ sel → Supported U P sel c

theorem supportStep_sound (U : Universe) (P : Problem) (sel sup : List Nat)
    (h : ∀ x ∈ sup, Supported U P sel x) : ∀ x ∈ supportStep U sel sup, Supported U P sel x := by
  intro x hx
  unfold supportStep at hx
  rcases List.mem_append.mp hx with h1 | h1
  · exact h x h1
  · rw [List.mem_filter] at h1
    obtain ⟨hxs, hc⟩ := h1
    simp only [Bool.and_eq_true, List.any_eq_true] at hc
    obtain ⟨_, s, hs, r, hr, hcr⟩ := hc
    exact .dep s r x (h s hs) hr (List.contains_iff_mem.mp hcr) hxs

theorem closure_sound (U : Universe) (P : Problem) (sel : List Nat) :
    ∀ x ∈ supportClosure U P sel, Supported U P sel x := by
  refine List.foldlRecOn _ _ (fun x hx => ?_) fun sup h _ _ => supportStep_sound U P sel sup h
  obtain ⟨hxs, hc⟩ := List.mem_filter.mp hx
  rcases Bool.or_eq_true _ _ ▸ hc with hc | hc
  · obtain ⟨r, hr, hcr⟩ := List.any_eq_true.mp hc
    exact .root r x hr (List.contains_iff_mem.mp hcr) hxs
  · exact .soft x (List.contains_iff_mem.mp hc) hxs

/-- if the oracle accepts, every selected solvable is supported -/
theorem supportedB_sound (U : Universe) (P : Problem) (sel : List Nat) (h : supportedB U P sel = true) :
    ∀ s ∈ sel, Supported U P sel s := by
  intro s hs
  unfold supportedB at h
  exact closure_sound U P sel s (List.contains_iff_mem.mp (List.all_eq_true.mp h s hs))

end Resolvo.C05
